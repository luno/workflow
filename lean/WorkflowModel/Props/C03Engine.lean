import WorkflowModel.Lemmas.Shapes
import WorkflowModel.Props.C03Table
/-! # C03 (engine part) — what the four write paths write, and when they refuse

Every write to a run is made by `trigger`, the updater, the run-state controller or the delete consumer. Here: the
controller rejects without any write; an accepted controller write is a lifecycle edge from the record it is based on (for
updater and delete writes: `C03_updater_edge`, `C03_delete_edge` of the table part); the updater writes one record only, and
Completed exactly for terminal destinations. The path statements over whole histories (`History.C03_lifecycle_path`,
`C03_first_write_initiated`, `C03_finished_stays_finished`, `C03_completed_at_terminal`, Props/History.lean) need every write to
be based on a CURRENT read; that fails for re-entrant user functions, stale handles and lagging reads (findings F20, F17,
F16), which is where the harness's lifecycle monitor reports them. -/
namespace WorkflowModel.C03
open WorkflowModel Engine RS

/-- A controller operation the table does not allow is rejected without any adapter call: state, trace and fault
position are untouched — for all run states (also out of range) and all four operations. -/
theorem C03_ctl_rejects_without_write (cfg : Cfg) (mem : Rec) (op : CtlOp) (env : Env) (st : OpSt)
    (h : allowed mem.runState (target op) = false) :
    ctlUpdateMem cfg mem op env st = (.ok (mem, some (.err (errInvalidRunState mem.runState (target op)))), st) := by
  unfold ctlUpdateMem
  rw [h]
  rfl

/-- An accepted controller operation writes — if anything — the record it holds with the target run state, the next
version, and nothing else changed (status, object, identity, creation time). The edge is a lifecycle edge. -/
theorem ctl_writes_only_that (cfg : Cfg) (mem : Rec) (op : CtlOp) (env : Env) (st : OpSt) :
    (ctlUpdateMem cfg mem op env st).2.sys = st.sys ∨ (ctlUpdateMem cfg mem op env st).2.sys =
      st.sys.write cfg { mem with runState := target op, reason := ctlReason op, version := mem.version + 1 } := by
  cases h : allowed mem.runState (target op)
  · rw [C03_ctl_rejects_without_write cfg mem op env st h]; exact Or.inl rfl
  · rw [ctlUpdateMem_allowed cfg mem op env st h]; exact (store_run_any cfg _ env st).1

theorem C03_ctl_accepted_write (cfg : Cfg) (mem : Rec) (op : CtlOp) (env : Env) (st : OpSt)
    (h : allowed mem.runState (target op) = true) :
    let w : Rec := { mem with runState := target op, reason := ctlReason op, version := mem.version + 1 }
    ((ctlUpdateMem cfg mem op env st).2.sys = st.sys ∨ (ctlUpdateMem cfg mem op env st).2.sys = st.sys.write cfg w) ∧
    Lifecycle mem.runState w.runState ∧ w.status = mem.status ∧ w.obj = mem.obj ∧ w.runId = mem.runId :=
  ⟨ctl_writes_only_that cfg mem op env st, C03_table_sound _ _ h, rfl, rfl, rfl⟩

/-- The web-UI handler and `ctlFreshApi` look the run up and operate at once: when the table rejects, nothing is stored. -/
theorem C03_fresh_ctl_rejects_without_write (cfg : Cfg) (rid : RunId) (op : CtlOp) (env : Env) (st : OpSt) (r : Rec)
    (hread : (lookupRes st.sys rid st.stale).2 = some r) (h : allowed r.runState (target op) = false) :
    (ctlFreshApi cfg rid op env st).2.sys = st.sys ∧ ∃ a, (ctlFreshApi cfg rid op env st).1 = .error a := by
  unfold ctlFreshApi
  rw [getSys_bind]
  split
  · exact ⟨rfl, _, rfl⟩
  · rcases lookup_bind rid _ env st with ⟨a, st', hl, hsys, _⟩ | ⟨st', hl, hsys, _⟩ <;> rw [hl]
    · exact ⟨hsys, a, rfl⟩
    · rw [hread]
      dsimp only
      unfold ctlUpdate
      rw [bind_run, bind_run, C03_ctl_rejects_without_write cfg r op env st' h]
      exact ⟨hsys, _, rfl⟩

/-- The updater writes Completed exactly when the destination is terminal, Running otherwise — and terminal is
"a destination that is never a source", whatever the order of the builder calls (C02Graph). -/
theorem C03_updater_completed_iff_terminal (cfg : Cfg) (next : Status) (run : Rec) (o : Obj) (now : Int) :
    ((updaterRec cfg next run o now).runState = 5 ↔ Graph.isTerminal cfg.graph next = true) ∧
    ((updaterRec cfg next run o now).runState = 2 ↔ Graph.isTerminal cfg.graph next = false) ∧
    (updaterRec cfg next run o now).status = next := by
  unfold updaterRec
  cases Graph.isTerminal cfg.graph next <;> simp [Gen.RunStateCompleted, Gen.RunStateRunning]

/-- … and that record, with the next version, is the only thing the updater can write. -/
theorem C03_updater_writes_only_that (cfg : Cfg) (current next : Status) (run : Rec) (o : Obj) (env : Env) (st : OpSt) :
    (updater cfg current next run o env st).2.sys = st.sys ∨
    (updater cfg current next run o env st).2.sys =
      st.sys.write cfg { updaterRec cfg next run o st.sys.now with version := run.version + 1 } := by
  rcases updater_run cfg current next run o env st with ⟨_, _, h, hsys⟩ | ⟨_, _, h, hsys, _⟩ | ⟨_, st', h, hsys, _⟩ <;> rw [h]
  · exact Or.inl hsys
  · exact Or.inl hsys
  · rw [← hsys]
    exact (store_run_any cfg _ env st').1

end WorkflowModel.C03
