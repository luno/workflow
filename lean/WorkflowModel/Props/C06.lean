import WorkflowModel.Lemmas.Routing
import WorkflowModel.Lemmas.Text
/-! # C06 — Each change is routed to exactly the parties that must react to it (pure part)

Statements about `MakeOutboxEventData` / `Topic` / `DeleteTopic` / `RunStateChangeTopic`, for every record:
every `Int` run state (also out of range), every `Int` status (negative, zero, huge), every name.
The run-state sets and literals come from `Generated/Facts.lean`, i.e. from the current source. -/
namespace WorkflowModel.C06
open WorkflowModel Routing Text

/-- Paused(3), Cancelled(4), Completed(5), DataDeleted(6) go to the run-state-change topic;
RequestedDataDeleted(7) to the delete topic; everything else — Initiated, Running, Unknown and every
out-of-range value — to the topic of the record's status. -/
theorem C06_route_topic (name : Str) (rs st : Int) :
    recordTopic name rs st =
      if rs = 3 ∨ rs = 4 ∨ rs = 5 ∨ rs = 6 then rscTopic name
      else if rs = 7 then deleteTopic name
      else topic name st := by
  rw [recordTopic, outboxTopicKind_eq]
  by_cases h : rs = 3 ∨ rs = 4 ∨ rs = 5 ∨ rs = 6
  · simp only [if_pos h]
  · by_cases h7 : rs = 7
    · simp only [if_neg h, if_pos h7]
    · simp only [if_neg h, if_neg h7]

/-- the event describing a write carries the run ID, foreign ID, run state and version of that write,
and its kind is decided by the run state alone -/
theorem C06_route_fields (r : Rec) :
    (route r).runId = r.runId ∧ (route r).fid = r.fid ∧ (route r).runState = r.runState ∧
    (route r).version = r.version ∧ (route r).topicStatus = r.status ∧
    (route r).topicKind = Gen.outboxTopicKind r.runState := by
  simp [route]

/-- header assignments of `MakeOutboxEventData` as extracted from the source (T1), compared with what
`Routing.headers` implements -/
theorem C06_header_assignments :
    Gen.outboxHeaders =
      [ (Gen.HeaderForeignID, "record.ForeignID"), (Gen.HeaderWorkflowName, "record.WorkflowName"),
        (Gen.HeaderTopic, "topic"), (Gen.HeaderRunID, "record.RunID"),
        (Gen.HeaderRunState, "strconv.FormatInt(int64(record.RunState), 10)"),
        (Gen.HeaderRecordVersion, "strconv.FormatInt(int64(record.Meta.Version), 10)") ] ∧
    Gen.outboxEventRunIdSrc = "record.RunID" ∧ Gen.outboxEventTypeSrc = "int32(record.Status)" :=
  ⟨rfl, rfl, rfl⟩

theorem C06_headers_carry (name fid runId : Str) (rs st v : Int) :
    (Gen.HeaderRunID, runId) ∈ headers name fid runId rs st v ∧
    (Gen.HeaderForeignID, fid) ∈ headers name fid runId rs st v ∧
    (Gen.HeaderRunState, intDec rs) ∈ headers name fid runId rs st v ∧
    (Gen.HeaderRecordVersion, intDec v) ∈ headers name fid runId rs st v ∧
    (Gen.HeaderWorkflowName, name) ∈ headers name fid runId rs st v ∧
    (Gen.HeaderTopic, recordTopic name rs st) ∈ headers name fid runId rs st v := by
  simp only [headers, List.mem_cons, true_or, or_true, and_self]

/-- the six header keys are pairwise different, so no assignment overwrites another -/
theorem C06_header_keys_distinct :
    [Gen.HeaderForeignID, Gen.HeaderWorkflowName, Gen.HeaderTopic, Gen.HeaderRunID, Gen.HeaderRunState,
      Gen.HeaderRecordVersion].Nodup := by decide

/-- The three topic functions join the same first part to a second one, so two topics of one workflow are equal
only if their second parts are. -/
theorem join_pair_inj {sep a b c : Str} (h : join sep [a, b] = join sep [a, c]) : b = c :=
  List.append_cancel_left (as := a ++ sep) h

/-- a string holding a byte that is neither `-` nor a digit is no decimal rendering -/
theorem intDec_ne {a : Int} {s : Str} {c : Nat} (hc : c ∈ s) (hn : ¬(c = 45 ∨ (48 ≤ c ∧ c ≤ 57))) : intDec a ≠ s :=
  fun h => hn (intDec_bytes a c (h ▸ hc))

/-- different statuses of one workflow never share a topic — all `Int` statuses -/
theorem C06_topic_inj (name : Str) (a b : Int) (h : topic name a = topic name b) : a = b :=
  intDec_inj (join_pair_inj h)

/-- a status topic is never the delete topic -/
theorem C06_topic_ne_delete (name : Str) (a : Int) : topic name a ≠ deleteTopic name :=
  fun h => intDec_ne (c := 100) (by decide) (by decide) (join_pair_inj h)

/-- a status topic is never the run-state-change topic -/
theorem C06_topic_ne_rsc (name : Str) (a : Int) : topic name a ≠ rscTopic name :=
  fun h => intDec_ne (c := 114) (by decide) (by decide) (join_pair_inj h)

/-- the delete topic is never the run-state-change topic -/
theorem C06_delete_ne_rsc (name : Str) : deleteTopic name ≠ rscTopic name :=
  fun h => absurd (join_pair_inj h) (by decide)

/-- consequence: two records of one workflow share a topic only if they are routed alike -/
theorem C06_topics_disjoint (name : Str) (rs1 st1 rs2 st2 : Int)
    (h : recordTopic name rs1 st1 = recordTopic name rs2 st2) :
    Gen.outboxTopicKind rs1 = Gen.outboxTopicKind rs2 ∧ (Gen.outboxTopicKind rs1 = 0 → st1 = st2) := by
  have hk (rs : Int) : Gen.outboxTopicKind rs = 0 ∨ Gen.outboxTopicKind rs = 1 ∨ Gen.outboxTopicKind rs = 2 := by
    rw [outboxTopicKind_eq]
    split
    · decide
    · split <;> decide
  unfold recordTopic at h
  rcases hk rs1 with h1 | h1 | h1 <;> rcases hk rs2 with h2 | h2 | h2 <;> rw [h1, h2] at h ⊢
  · exact ⟨rfl, fun _ => C06_topic_inj name _ _ h⟩
  · exact absurd h (C06_topic_ne_delete name st1)
  · exact absurd h (C06_topic_ne_rsc name st1)
  · exact absurd h.symm (C06_topic_ne_delete name st2)
  · exact ⟨rfl, nofun⟩
  · exact absurd h (C06_delete_ne_rsc name)
  · exact absurd h.symm (C06_topic_ne_rsc name st2)
  · exact absurd h.symm (C06_delete_ne_rsc name)
  · exact ⟨rfl, nofun⟩

/-- AWAIT (decision regenerated from await.go): the caller is released — the event is not skipped — only if the event passed
the foreign-ID / run-ID filters AND its type is the awaited status; and the type of the event describing a write is the
status of that write (as an int32). So a release is caused by an event recording that the awaited run was written at the
awaited status; a pause, cancellation or completion at any OTHER status on the shared run-state-change topic is skipped.
(Before the repair of defect F2 the test was the filter alone: `Await(terminal)` was released by a Pause.) -/
theorem C06_await_release (filtered : Bool) (ty status : Int) (h : Gen.G.awaitSkip filtered ty status = false) :
    filtered = false ∧ ty = status := by
  simpa [Gen.G.awaitSkip] using h

theorem toInt32_id (x : Int) (h1 : -2147483648 ≤ x) (h2 : x < 2147483648) : toInt32 x = x := by
  show (if x % 4294967296 ≥ 2147483648 then x % 4294967296 - 4294967296 else x % 4294967296) = x
  split <;> omega

theorem C06_await_release_write (filtered : Bool) (w : Rec) (status : Int) (hr : -2147483648 ≤ w.status ∧ w.status < 2147483648)
    (h : Gen.G.awaitSkip filtered (route w).type status = false) : w.status = status :=
  (toInt32_id _ hr.1 hr.2).symm.trans (C06_await_release filtered _ status h).2

/-- non-vacuity / sanity: concrete instances ("my flow", -7 ↦ "my_flow--7"; run state 12 is out of range) -/
example : topic [109, 121, 32, 102] (-7) = [109, 121, 95, 102, 45, 45, 55] := by
  simp [topic, join, intDec, natDigits, replSpace, Gen.topicSeparator, Gen.emptySpaceReplacement]
example : recordTopic [119] 3 9 = rscTopic [119] ∧ recordTopic [119] 7 9 = deleteTopic [119] ∧
    recordTopic [119] 12 9 = topic [119] 9 ∧ recordTopic [119] 0 9 = topic [119] 9 := by
  simp [C06_route_topic]

end WorkflowModel.C06
