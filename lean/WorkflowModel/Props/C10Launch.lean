import WorkflowModel.Model.Launch
import WorkflowModel.Props.Tie
/-! # C10 (launch clauses) — every configured process is launched exactly once

Over the launch model (`Launch.launches`, decisions regenerated from `Workflow.Run`): a unit with effective parallel
count n — its own count, or the workflow default when it has none — gets exactly the shards 1..n of n when n ≥ 2 and
exactly one un-sharded process otherwise; for steps AND for connectors; and no process is launched twice. Role names are
functions of stable identifiers only (the model has no access to display strings; T2 pins the makeRole arguments). -/
namespace WorkflowModel.C10Launch
open WorkflowModel Launch

/-- the loop `for i := c + k; i <= p; i++` with `n` rounds to go and fuel for them -/
theorem shards_le (p c : Int) (n : Nat) : ∀ (f k : Nat), n ≤ f → c + k + n = p + 1 →
    shards (fun j => decide (j ≤ p)) f (c + k) = (List.range' k n).map (fun (j : Nat) => c + (j : Int)) := by
  induction n with
  | zero =>
    intro f k _ h
    cases f with
    | zero => rfl
    | succ f => rw [shards, if_neg (by simp only [decide_eq_true_eq]; omega)]; rfl
  | succ n ih =>
    intro f k hf h
    cases f with
    | zero => omega
    | succ f =>
      rw [shards, if_pos (by simp only [decide_eq_true_eq]; omega), List.range'_succ, List.map_cons, Int.add_assoc,
        ← Int.natCast_succ, ih f (k + 1) (by omega) (by omega)]

/-- the shards 1..n of n -/
def oneToN (n : Int) : List Int := (List.range n.toNat).map (fun (k : Nat) => 1 + (k : Int))

/-- effective parallel count: the unit's own count, or the default when it has none -/
def eff (dflt own : Int) : Int := if own ≠ 0 then own else dflt

/-- the processes of one unit, `mk i n` being its shard `i` of `n` -/
def unit (mk : Int → Int → P) (dflt own : Int) : List P :=
  if eff dflt own < 2 then [mk 1 1] else (oneToN (eff dflt own)).map (fun i => mk i (eff dflt own))

/-- the body that `stepUnit` and `connUnit` share once the generated guards of `Run` are unfolded -/
theorem loop_unit (mk : Int → Int → P) (dflt own : Int) :
    (let p := if decide (own ≠ 0) = true then own else dflt
     if decide (p < 2) = true then [mk 1 1]
     else (shards (fun i => decide (i ≤ p)) (fuelFor p own) 1).map (fun i => mk i p)) = unit mk dflt own := by
  have loop (p : Int) (hp : ¬p < 2) : shards (fun i => decide (i ≤ p)) (fuelFor p own) 1 = oneToN p := by
    rw [oneToN, List.range_eq_range']
    exact shards_le p 1 p.toNat _ 0 (by unfold fuelFor; omega) (by omega)
  simp only [decide_eq_true_iff, ← show eff dflt own = (if own ≠ 0 then own else dflt) from rfl]
  unfold unit
  split
  · rfl
  · rw [loop _ ‹_›]

/-- Steps: exactly one process per shard of the effective count (own or default), one un-sharded process below 2. -/
theorem C10_step_unit (dflt : Int) (s : Int × Int) :
    stepUnit dflt s = if eff dflt s.2 < 2 then [P.step s.1 1 1] else (oneToN (eff dflt s.2)).map (fun i => P.step s.1 i (eff dflt s.2)) :=
  loop_unit (P.step s.1) dflt s.2

/-- Connectors: the same — in particular a connector WITHOUT its own count under a workflow default of n ≥ 2 is launched
as n shards of n (this is the statement that failed before the repair of defect F11). -/
theorem C10_conn_unit (dflt : Int) (c : Str × Int) :
    connUnit dflt c = if eff dflt c.2 < 2 then [P.conn c.1 1 1] else (oneToN (eff dflt c.2)).map (fun i => P.conn c.1 i (eff dflt c.2)) :=
  loop_unit (P.conn c.1) dflt c.2

theorem oneToN_nodup (n : Int) : (oneToN n).Nodup :=
  List.Pairwise.map _ (fun _ _ h e => h (by omega)) List.nodup_range

theorem mem_oneToN (n i : Int) : i ∈ oneToN n ↔ 1 ≤ i ∧ i ≤ n := by
  simp only [oneToN, List.mem_map, List.mem_range]
  constructor
  · rintro ⟨k, hk, rfl⟩; omega
  · rintro ⟨h1, h2⟩; exact ⟨(i - 1).toNat, by omega, by omega⟩

theorem C10_unit_count (dflt : Int) (s : Int × Int) :
    (stepUnit dflt s).length = (if eff dflt s.2 < 2 then 1 else (eff dflt s.2).toNat) := by
  rw [C10_step_unit]; split <;> simp [oneToN]

theorem unit_nodup {mk : Int → Int → P} (hmk : ∀ i j n, mk i n = mk j n → i = j) (dflt own : Int) :
    (unit mk dflt own).Nodup := by
  unfold unit
  split
  · exact List.pairwise_singleton _ _
  · exact List.Pairwise.map _ (fun _ _ h e => h (hmk _ _ _ e)) (oneToN_nodup _)

theorem mem_unit {mk : Int → Int → P} {dflt own : Int} {p : P} (h : p ∈ unit mk dflt own) :
    ∃ i n, p = mk i n ∧ 1 ≤ i ∧ 1 ≤ n := by
  unfold unit at h
  split at h
  · exact ⟨1, 1, List.mem_singleton.mp h, by decide, by decide⟩
  · obtain ⟨i, hi, rfl⟩ := List.mem_map.mp h
    exact ⟨i, _, rfl, ((mem_oneToN _ _).mp hi).1, by omega⟩

/-- the entries have distinct keys, and an element of `f a` determines the key of `a` -/
theorem nodup_flatMap {α β γ : Type} {f : α → List β} {key : α → γ} (hkey : ∀ a b x, x ∈ f a → x ∈ f b → key a = key b)
    (hf : ∀ a, (f a).Nodup) {l : List α} (h : (l.map key).Nodup) : (l.flatMap f).Nodup :=
  List.pairwise_flatMap.mpr ⟨fun a _ => hf a, (List.pairwise_map.mp h).imp fun hab x hx y hy (e : x = y) =>
    hab (hkey _ _ x hx (e ▸ hy))⟩

/-- appending a duplicate-free block with tag `b` to a duplicate-free list with tags below `b` -/
theorem nodup_append_tag {α : Type} {k : α → Nat} {b : Nat} {l₁ l₂ : List α} (h₁ : l₁.Nodup ∧ ∀ x ∈ l₁, k x < b)
    (h₂ : l₂.Nodup ∧ ∀ x ∈ l₂, k x = b) : (l₁ ++ l₂).Nodup ∧ ∀ x ∈ l₁ ++ l₂, k x < b + 1 := by
  refine ⟨List.nodup_append.mpr ⟨h₁.1, h₂.1, fun x hx y hy e => ?_⟩, fun x hx => ?_⟩
  · have := h₁.2 x hx; have := h₂.2 y hy; subst e; omega
  · rcases List.mem_append.mp hx with hx | hx
    · have := h₁.2 x hx; omega
    · have := h₂.2 x hx; omega

/-- position of a process kind in `launches` -/
def block : P → Nat
  | .outbox => 0 | .step .. => 1 | .poller _ => 2 | .inserter _ => 2 | .conn .. => 3 | .hook _ => 4 | .delete => 5 | .retry => 6

/-- The step block and the connector block of `launches`: `f a` are the shards `unit (mk a.1) dflt a.2` of the entry `a` (`hf`),
`mk` is injective (`hmk`: a constructor) and all its values lie in block `b` (`hb`). With one entry per key the block has no
duplicates. -/
theorem units_block {κ : Type} {mk : κ → Int → Int → P} (hmk : ∀ {a i n b j m}, mk a i n = mk b j m → a = b ∧ i = j ∧ n = m)
    {b : Nat} (hb : ∀ a i n, block (mk a i n) = b) {f : κ × Int → List P} {dflt : Int} (hf : ∀ a, f a = unit (mk a.1) dflt a.2)
    {l : List (κ × Int)} (h : (l.map (·.1)).Nodup) : (l.flatMap f).Nodup ∧ ∀ p ∈ l.flatMap f, block p = b := by
  refine ⟨nodup_flatMap (fun a a' p hp hp' => ?_) (fun a => ?_) h, List.forall_mem_flatMap.mpr fun a _ p hp => ?_⟩
  · rw [hf] at hp hp'
    obtain ⟨i, n, rfl, _⟩ := mem_unit hp
    obtain ⟨j, m, e, _⟩ := mem_unit hp'
    exact (hmk e).1
  · rw [hf]
    exact unit_nodup (fun i j n e => (hmk e).2.1) _ _
  · rw [hf] at hp
    obtain ⟨i, n, rfl, _⟩ := mem_unit hp
    exact hb _ _ _

/-- No process is launched twice: with one builder entry per step status, timeout status, connector name and hook state
(they are map keys / checked by the builder), all launched processes are pairwise different. -/
theorem C10_launched_once (c : Cfg) (hs : (c.steps.map (·.1)).Nodup) (ht : c.timeouts.Nodup)
    (hc : (c.connectors.map (·.1)).Nodup) (hh : c.hooks.Nodup) : (launches c).Nodup := by
  have one {p : P} {n : Nat} (h : block p = n) : [p].Nodup ∧ ∀ q ∈ [p], block q = n :=
    ⟨List.pairwise_singleton _ _, fun q hq => by rw [List.mem_singleton.mp hq, h]⟩
  have opt (b : Bool) {l : List P} {n : Nat} (h : l.Nodup ∧ ∀ p ∈ l, block p = n) :
      (if b then l else []).Nodup ∧ ∀ p ∈ (if b then l else []), block p = n := by
    cases b
    · exact ⟨List.nodup_nil, fun _ hp => nomatch hp⟩
    · exact h
  have steps := units_block P.step.inj (fun _ _ _ => rfl) (C10_step_unit c.defaultPar) hs
  have conns := units_block P.conn.inj (fun _ _ _ => rfl) (C10_conn_unit c.defaultPar) hc
  have timeouts : (c.timeouts.flatMap fun s => [P.poller s, P.inserter s]).Nodup ∧
      ∀ p ∈ c.timeouts.flatMap fun s => [P.poller s, P.inserter s], block p = 2 := by
    refine ⟨nodup_flatMap (key := id) (fun a b p hp hp' => ?_) (fun a => by simp) (by simpa using ht),
      List.forall_mem_flatMap.mpr fun a _ p hp => ?_⟩
    · simp only [List.mem_cons, List.mem_nil_iff, or_false] at hp hp'
      rcases hp with rfl | rfl <;> rcases hp' with e | e <;> injection e
    · simp only [List.mem_cons, List.mem_nil_iff, or_false] at hp
      rcases hp with rfl | rfl <;> rfl
  have hooks : (c.hooks.map P.hook).Nodup ∧ ∀ p ∈ c.hooks.map P.hook, block p = 4 :=
    ⟨List.Pairwise.map _ (fun _ _ h e => h (P.hook.inj e)) hh, fun p hp => by obtain ⟨_, _, rfl⟩ := List.mem_map.mp hp; rfl⟩
  have h : [P.outbox].Nodup ∧ ∀ p ∈ [P.outbox], block p < 1 :=
    ⟨List.pairwise_singleton _ _, fun p hp => by rw [List.mem_singleton.mp hp]; decide⟩
  have h := nodup_append_tag h steps
  have h := nodup_append_tag h (opt c.timeoutStore timeouts)
  have h := nodup_append_tag h conns
  have h := nodup_append_tag h hooks
  have h := nodup_append_tag h (one (p := P.delete) rfl)
  exact (nodup_append_tag h (opt c.retry (one (p := P.retry) rfl))).1

/-- T2: the launch calls and role constructions of the current source are the ones the model transcribes -/
theorem C10_tie_launch : Tie.runLaunches = true ∧ Tie.roles = true := by
  have and_ok : ∀ {a b : Bool}, a = true → b = true → (a && b) = true := fun ha hb => by rw [ha, hb]; rfl
  -- each regenerated string is literally the expected one
  exact ⟨beq_self_eq_true _, and_ok (and_ok (and_ok (and_ok (and_ok (and_ok (and_ok (beq_self_eq_true _) (beq_self_eq_true _))
    (beq_self_eq_true _)) (beq_self_eq_true _)) (beq_self_eq_true _)) (beq_self_eq_true _)) (beq_self_eq_true _)) (beq_self_eq_true _)⟩

/-- non-vacuity: default 3; a step with its own count 2, a step without, a connector without its own count -/
example :
    launches { name := S "wf", defaultPar := 3, steps := [(1, 2), (2, 0)], timeouts := [1], connectors := [(S "c", 0)], hooks := [3] } =
      [.outbox, .step 1 1 2, .step 1 2 2, .step 2 1 3, .step 2 2 3, .step 2 3 3, .poller 1, .inserter 1,
       .conn (S "c") 1 3, .conn (S "c") 2 3, .conn (S "c") 3 3, .hook 3, .delete, .retry] := by decide +kernel

end WorkflowModel.C10Launch
