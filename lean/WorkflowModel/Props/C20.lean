import WorkflowModel.Model.Schedule
import WorkflowModel.Props.Tie
/-! # C20 — Schedule triggers at most one run per cron tick and never early

Over the scheduler model (`Schedule.park` / `Schedule.wake`; cron instants as a parameter), for every sequence of
iterations, clock readings (the statements ask for non-decreasing ones, `Timed`; `reachable` shows that any will do), filter
answers, run completions and role losses:
* a run is created only at or after a cron instant that lies strictly after the creation of the latest run (or after the
  instant the iteration started, when there is none);
* between two runs the scheduler creates there is always a cron instant: at most one run per tick;
* nothing is created while the filter answers false or the previous run is unfinished.
The tie is the suite `sim-schedule`: the real `Workflow.Schedule` under the gated simulator clock against this model,
with the tick list computed by the cron library, plus an oracle written from the property text. -/
namespace WorkflowModel.C20
open WorkflowModel.Schedule

theorem next_spec (ticks : List Int) (t d : Int) (h : next ticks t = some d) : d ∈ ticks ∧ t < d := by
  unfold next at h
  exact ⟨List.mem_of_find?_eq_some h, by simpa using List.find?_some h⟩

/-- What `wake` can do: leave the state alone (no timer armed, or its deadline not reached) or only disarm the timer
(filter false, or the previous run unfinished), both without creating; or create a run. -/
theorem wake_cases (s : SchState) (now : Int) (f : Bool) :
    ((s.wake now f).2 ≠ .created ∧ ((s.wake now f).1 = s ∨ (s.wake now f).1 = s.lose)) ∨
    ∃ d, s.pending = some d ∧ d ≤ now ∧ f = true ∧ (∀ c, s.latest ≠ some (c, false)) ∧
      (s.wake now f).1 = { s with pending := none, latest := some (now, false), created := now :: s.created } := by
  unfold SchState.wake
  split
  · exact .inl ⟨nofun, .inl rfl⟩
  · rename_i d hp
    by_cases hd : now < d
    · rw [if_pos hd]
      exact .inl ⟨nofun, .inl rfl⟩
    · rw [if_neg hd]
      cases f with
      | false => exact .inl ⟨nofun, .inr rfl⟩
      | true =>
        rw [if_neg (by decide)]
        split
        · exact .inl ⟨nofun, .inr rfl⟩
        · rename_i hl
          exact .inr ⟨d, hp, Int.not_lt.mp hd, rfl, hl, rfl⟩

/-- Never early: when `wake` creates a run at `now`, a timer was armed with a deadline `d` that is a cron instant, the run
is not created before it, and `d` lies strictly after whatever the deadline was computed from. -/
theorem C20_created_not_before_deadline (s : SchState) (now : Int) (f : Bool) (h : (s.wake now f).2 = .created) :
    ∃ d, s.pending = some d ∧ d ≤ now :=
  let ⟨d, hp, hd, _⟩ := (wake_cases s now f).resolve_left fun hne => hne.1 h
  ⟨d, hp, hd⟩

/-- the deadline armed by `park` is the first cron instant strictly after the creation of the latest run — or strictly
after the instant of the reading when the foreign ID has no run yet -/
theorem C20_deadline_after_latest (s : SchState) (now d : Int) (h : (s.park now).pending = some d) :
    d ∈ s.ticks ∧ (match s.latest with | some l => l.1 < d | none => now < d) := by
  obtain ⟨h1, h2⟩ := next_spec _ _ _ h
  refine ⟨h1, ?_⟩
  cases hl : s.latest <;> simpa [hl] using h2

/-- Nothing is created while the filter answers false, while the previous run is unfinished, or before the deadline. -/
theorem C20_no_run_unless (s : SchState) (now : Int) (f : Bool)
    (h : f = false ∨ (∃ c, s.latest = some (c, false)) ∨ (∀ d, s.pending = some d → now < d)) :
    (s.wake now f).1.created = s.created ∧ (s.wake now f).1.latest = s.latest := by
  rcases wake_cases s now f with ⟨_, e | e⟩ | ⟨d, hp, hd, hf, hl, _⟩
  · rw [e]; exact ⟨rfl, rfl⟩
  · rw [e]; exact ⟨rfl, rfl⟩
  · rcases h with h | ⟨c, hc⟩ | h
    · rw [hf] at h; cases h
    · exact absurd hc (hl c)
    · have := h d hp; omega

/-- invariant of every reachable state (`clock`: a bound on the instants at which runs were created):
* the latest run is the newest created one, every created run is at most as new;
* an armed deadline is a cron instant strictly after every created run;
* between any two consecutive created runs lies a cron instant. -/
structure Inv (s : SchState) (clock : Int) : Prop where
  latest_head : ∀ c, s.created.head? = some c → ∃ b, s.latest = some (c, b)
  latest_none : s.created = [] → s.latest = none
  le_clock : ∀ c ∈ s.created, c ≤ clock
  pending_after : ∀ d, s.pending = some d → d ∈ s.ticks ∧ ∀ c ∈ s.created, c < d
  tick_between : s.created.Pairwise (fun newer older => ∃ τ ∈ s.ticks, older < τ ∧ τ ≤ newer)

theorem inv_init (ticks : List Int) (t0 : Int) : Inv { ticks := ticks } t0 :=
  ⟨(fun _ h => nomatch h), fun _ => rfl, List.forall_mem_nil _, (fun _ h => nomatch h), List.Pairwise.nil⟩

/-- a created run is not newer than the latest one, which exists: that is the head of `created`, and a tick lies between it and
any other -/
theorem Inv.le_latest {s : SchState} {clock : Int} (h : Inv s clock) {c : Int} (hc : c ∈ s.created) :
    ∃ l, s.latest = some l ∧ c ≤ l.1 := by
  have hp := h.tick_between
  cases hcr : s.created with
  | nil => rw [hcr] at hc; cases hc
  | cons c0 rest =>
    obtain ⟨b, hb⟩ := h.latest_head c0 (by rw [hcr]; rfl)
    refine ⟨_, hb, ?_⟩
    rw [hcr] at hc hp
    rcases List.mem_cons.mp hc with rfl | hc
    · exact Int.le_refl _
    · obtain ⟨τ, _, h3, h4⟩ := (List.pairwise_cons.mp hp).1 c hc
      omega

/-- the deadline is computed from the latest run, which is the newest: no reading of the clock is involved -/
theorem inv_park (s : SchState) (clock now : Int) (h : Inv s clock) : Inv (s.park now) clock := by
  refine { h with pending_after := fun d hd => ?_ }
  obtain ⟨h1, h2⟩ := C20_deadline_after_latest s now d hd
  refine ⟨h1, fun c hc => ?_⟩
  obtain ⟨l, hl, hle⟩ := h.le_latest hc
  rw [hl] at h2
  exact Int.lt_of_le_of_lt hle h2

theorem inv_lose (s : SchState) (clock : Int) (h : Inv s clock) : Inv s.lose clock :=
  { h with pending_after := nofun }

/-- `wake` compares the reading with the armed deadline itself, so a reading that goes backwards creates nothing early; the
clock of the invariant only has to bound what was created -/
theorem inv_wake (s : SchState) (clock now : Int) (f : Bool) (h : Inv s clock) : Inv (s.wake now f).1 (max clock now) := by
  have hmono : Inv s (max clock now) := { h with le_clock := fun c hc => Int.le_trans (h.le_clock c hc) (Int.le_max_left ..) }
  rcases wake_cases s now f with ⟨_, e | e⟩ | ⟨d, hp, hd, _, _, e⟩
  · rw [e]; exact hmono
  · rw [e]; exact inv_lose s _ hmono
  · rw [e]
    obtain ⟨hdt, hdc⟩ := h.pending_after d hp
    exact {
      latest_head := fun c hc => ⟨false, by cases hc; rfl⟩
      latest_none := nofun
      le_clock := List.forall_mem_cons.mpr ⟨Int.le_max_right .., hmono.le_clock⟩
      pending_after := nofun
      tick_between := List.pairwise_cons.mpr ⟨fun c hc => ⟨d, hdt, hdc c hc, hd⟩, h.tick_between⟩ }

theorem inv_finish (s : SchState) (clock : Int) (h : Inv s clock) : Inv s.finish clock := by
  refine { h with latest_head := fun c hc => ?_, latest_none := fun hc => ?_ }
  · obtain ⟨b, hb⟩ := h.latest_head c hc
    exact ⟨true, by simp [SchState.finish, hb]⟩
  · simp [SchState.finish, h.latest_none hc]

/-- operation sequences whose clock readings never go backwards -/
def Timed : Int → List Op → Prop
  | _, [] => True
  | clock, op :: ops => (match op.time with | some n => clock ≤ n ∧ Timed n ops | none => Timed clock ops)

/-- the invariant holds after every operation sequence, whatever its clock readings -/
theorem reachable (ops : List Op) (s : SchState) (clock : Int) (h : Inv s clock) : ∃ clock', Inv (ops.foldl SchState.apply s) clock' := by
  induction ops generalizing s clock with
  | nil => exact ⟨clock, h⟩
  | cons op ops ih =>
    cases op with
    | park n => exact ih _ _ (inv_park s clock n h)
    | wake n f => exact ih _ _ (inv_wake s clock n f h)
    | finish => exact ih _ _ (inv_finish s clock h)
    | lose => exact ih _ _ (inv_lose s clock h)

theorem reachable_inv (ops : List Op) (s : SchState) (clock : Int) (h : Inv s clock) (ht : Timed clock ops) :
    ∃ clock', Inv (ops.foldl SchState.apply s) clock' :=
  -- `ht` is not needed: see `reachable`
  have _ := ht
  reachable ops s clock h

theorem ticks_apply (s : SchState) (op : Op) : (s.apply op).ticks = s.ticks := by
  cases op with
  | wake n f =>
    show (s.wake n f).1.ticks = s.ticks
    rcases wake_cases s n f with ⟨_, e | e⟩ | ⟨_, _, _, _, _, e⟩ <;> rw [e] <;> rfl
  | _ => rfl

theorem ticks_foldl (ops : List Op) (s : SchState) : (ops.foldl SchState.apply s).ticks = s.ticks := by
  induction ops generalizing s with
  | nil => rfl
  | cons op ops ih => rw [List.foldl_cons, ih, ticks_apply]

/-- AT MOST ONE RUN PER TICK, for every history: between any two runs the scheduler created there is a cron instant —
strictly after the older one, not after the newer one. -/
theorem C20_one_run_per_tick (ticks : List Int) (t0 : Int) (ops : List Op) (ht : Timed t0 ops) :
    ((ops.foldl SchState.apply { ticks := ticks }).created).Pairwise (fun newer older => ∃ τ ∈ ticks, older < τ ∧ τ ≤ newer) := by
  obtain ⟨c, hi⟩ := reachable_inv ops { ticks := ticks } t0 (inv_init ticks t0) ht
  have := hi.tick_between
  rwa [ticks_foldl] at this

/-- T2: the call order of `Schedule` (parse the specification first; Latest, Next, wait, filter, Trigger) -/
theorem C20_tie_order : Tie.schedule = true := beq_self_eq_true _

/-- non-vacuity: hourly ticks 3600, 7200; start at 10: first run at 3600 (not before), the second iteration while the
first run is unfinished creates nothing, after it finished the next run comes at 7200 -/
example :
    let s0 : SchState := { ticks := [3600, 7200, 10800] }
    let s1 := (s0.park 10)
    s1.pending = some 3600 ∧ (s1.wake 3599 true).2 = .notDue ∧ (s1.wake 3600 true).2 = .created ∧
    (((s1.wake 3600 true).1.park 3601).wake 7200 true).2 = .inProgress ∧
    (((s1.wake 3600 true).1.finish.park 3601).wake 7200 true).2 = .created := by decide

end WorkflowModel.C20
