import WorkflowModel.Generated.Facts
import WorkflowModel.Generated.Guards
import WorkflowModel.Generated.Order
/-! # T2 — call-order tripwires

`Gen.Order.*` is regenerated from the source on every run (adapter/API calls of each order-critical function
in source order; `!` = the error is checked and propagated, `?` = inside a condition, `:defer`).
Each tripwire is a `Bool` definition (so this module always compiles); the property files assert the ones
they depend on (`x == x`: the regenerated list is literally the expected one), so a reordering breaks exactly the
properties that rest on that order. -/
namespace WorkflowModel.Tie
open WorkflowModel.Gen

/-- consume: recv, (lag timer), filter, ack-if-filtered, handle, ack — errors propagate before the ack -/
def consume : Bool := Order.consume == ["receiver.Recv!", "clock.NewTimer", "FilterUsing", "ack!", "consumeFn!", "ack!"]
/-- relay: list, (idle wait), new sender, send, close the sender, delete — each error aborts the cycle -/
def purgeOutbox : Bool := Order.purgeOutbox ==
  ["recordStore.ListOutboxEvents!", "wait!", "stream.NewSender!", "producer.Send", "producer.Close", "recordStore.DeleteOutboxEvent!"]
def runOnce : Bool := Order.runOnce == ["awaitRole", "cancel:defer", "process", "clock.NewTimer"]
def stepConsumer : Bool := Order.stepConsumer == ["lookupFn!", "buildRun!", "stepLogic!", "maybePause!", "skipUpdate?", "updater!"]
def updater : Bool := Order.updater == ["Marshal!", "graph.IsTerminal", "lookup!", "validateTransition!", "updateRecord!"]
def updateRecord : Bool := Order.updateRecord == ["store!"]
def trigger : Bool := Order.trigger == ["w.statusGraph.IsValid?", "Marshal!", "lookup!", "updateRecord!"]
def processCallback : Bool := Order.processCallback == ["latest!", "buildRun!", "fn!", "skipUpdate?", "updater!"]
def processTimeout : Bool := Order.processTimeout ==
  ["buildRun!", "config.TimeoutFunc!", "maybePause!", "skipUpdate?", "updater!", "completeFn!"]
def inserter : Bool := Order.inserter ==
  ["config.TimerFunc!", "w.timeoutStore.Create!", "w.eventStreamer.NewReceiver!", "stream.Close:defer", "consume!"]
def runDelete : Bool := Order.runDelete == ["lookup!", "customDeleteFn!", "updateRecord!"]
def autoRetry : Bool := Order.autoRetry == ["lookupFn!", "controller.Resume!"]
def pollTimeouts : Bool := Order.pollTimeouts ==
  ["w.timeoutStore.ListValid!", "w.recordStore.Lookup!", "w.timeoutStore.Cancel!", "processTimeout!", "wait!"]
def maybePause : Bool := Order.maybePause == ["counter.Add", "run.Pause!", "counter.Clear"]
def runHook : Bool := Order.runHook == ["lookup!", "Unmarshal", "hook!"]
def rscUpdate : Bool := Order.rscUpdate == ["updateRecord!"]
def stepProcess : Bool := Order.stepProcess == ["w.eventStreamer.NewReceiver!", "stream.Close:defer", "consume!"]
def sqlStore : Bool := Order.sqlStore ==
  ["s.writer.BeginTx!", "tx.Rollback:defer", "tx.QueryRowContext!", "s.create!", "s.update!",
   "workflow.MakeOutboxEventData!", "s.insertOutboxEvent!", "tx.Commit!"]
def schedule : Bool := Order.schedule ==
  ["cron.ParseStandard!", "w.recordStore.Latest!", "schedule.Next", "waitUntil!", "options.scheduleFilter!", "w.Trigger!"]
def memStore : Bool := Order.memStore == ["workflow.MakeOutboxEventData!"]

/-- `Run`: which process kinds are launched and with which arguments (shard index / count) -/
def runLaunches : Bool := Order.runLaunches ==
  ["outboxConsumer(w, w.outboxConfig)", "consumeStepEvents(w, currentStatus, config, 1, 1)",
   "consumeStepEvents(w, currentStatus, config, i, parallelCount)", "timeoutPoller(w, status, timeouts)",
   "timeoutAutoInserterConsumer(w, status, timeouts)", "connectorConsumer(w, config, 1, 1)",
   "connectorConsumer(w, config, i, parallelCount)", "runStateChangeHookConsumer(w, state, hook)",
   "deleteConsumer(w)", "pausedRecordsRetryConsumer(w)"]

/-- role names are built from stable identifiers only: workflow / connector name, numeric status
(`strconv.FormatInt(int64(status), 10)`), run-state name, shard index and count, fixed literals -/
def roles : Bool :=
  Order.roleStep == "makeRole( w.Name(), strconv.FormatInt(int64(currentStatus), 10), \"consumer\", strconv.FormatInt(int64(shard), 10), \"of\", strconv.FormatInt(int64(totalShards), 10), )" &&
  Order.rolePoller == "makeRole(w.Name(), strconv.FormatInt(int64(status), 10), \"timeout-consumer\")" &&
  Order.roleInserter == "makeRole(w.Name(), strconv.FormatInt(int64(status), 10), \"timeout-auto-inserter-consumer\")" &&
  Order.roleConnector == "makeRole( config.name, \"connector\", \"to\", w.Name(), \"consumer\", strconv.FormatInt(int64(shard), 10), \"of\", strconv.FormatInt(int64(totalShards), 10), )" &&
  Order.roleHook == "makeRole( w.Name(), runState.String(), \"run-state-change-hook\", \"consumer\", )" &&
  Order.roleDelete == "makeRole( w.Name(), \"delete\", \"consumer\", )" &&
  Order.roleRetry == "makeRole( w.Name(), \"paused\", \"records\", \"retry\", \"consumer\", )" &&
  Order.roleOutbox == "makeRole(w.Name(), \"outbox\", \"consumer\")"

end WorkflowModel.Tie
