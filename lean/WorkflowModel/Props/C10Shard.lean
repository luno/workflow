import WorkflowModel.Model.Routing
import WorkflowModel.Props.C10Launch
/-! # C10 (shards) — shards partition the events, for every event ID including negative ones

`Routing.shardOut` is built from the **generated** guard expressions of `shardFilter` (Go `%` is truncated
division = `Int.tmod`). Before the repair of defect F12 the expression was `id % n ≠ shard-1` and the full statement was
provably FALSE (id = -3, n = 2 was handled by no shard); the repaired expression shifts the remainder into [0, n). -/
namespace WorkflowModel.C10
open WorkflowModel Routing Text

/-- the remainder the repaired filter compares with: in [0, n) for every id -/
def posMod (id total : Int) : Int := (id.tmod total + total).tmod total

theorem shardOut_false_iff (shard total id : Int) :
    shardOut shard total id = false ↔ (total ≤ 1 ∨ posMod id total = shard - 1) := by
  unfold shardOut posMod Gen.G.shardActive Gen.G.shardOutExpr Gen.G.shardTotal
  by_cases ht : total > 1
  · rw [if_pos (decide_eq_true ht), decide_eq_false_iff_not, Classical.not_not]
    exact ⟨Or.inr, fun h => h.resolve_left (by omega)⟩
  · rw [if_neg (by simpa using ht)]
    exact ⟨fun _ => Or.inl (by omega), fun _ => rfl⟩

theorem posMod_range (id total : Int) (ht : 0 < total) : 0 ≤ posMod id total ∧ posMod id total < total :=
  ⟨Int.tmod_nonneg total (by have := Int.lt_tmod_of_pos id ht; omega), Int.tmod_lt_of_pos _ ht⟩

/-- FULL STATEMENT: with n ≥ 2 shards EVERY event ID — negative ones derived from hashes included — is handled by exactly
one of the n shards (and filtered out, i.e. acknowledged unhandled, by all the others). -/
theorem shard_partition (total id : Int) (ht : 1 < total) :
    ∃ s, 1 ≤ s ∧ s ≤ total ∧ shardOut s total id = false ∧ ∀ s', shardOut s' total id = false → s' = s := by
  obtain ⟨h0, h1⟩ := posMod_range id total (by omega)
  refine ⟨posMod id total + 1, by omega, by omega, ?_, ?_⟩
  · rw [shardOut_false_iff]; exact Or.inr (by omega)
  · intro s' h3
    rw [shardOut_false_iff] at h3
    omega

theorem C10_shard_partition (total id : Int) (ht : 1 < total) :
    ∃ s, 1 ≤ s ∧ s ≤ total ∧ shardOut s total id = false ∧
      ∀ s', 1 ≤ s' → s' ≤ total → shardOut s' total id = false → s' = s :=
  let ⟨s, h1, h2, h3, h4⟩ := shard_partition total id ht
  ⟨s, h1, h2, h3, fun s' _ _ => h4 s'⟩

/-- with fewer than two shards nothing is filtered -/
theorem C10_single_shard (shard total id : Int) (ht : total ≤ 1) : shardOut shard total id = false := by
  rw [shardOut_false_iff]; exact Or.inl ht

/-- T2: launch sequence of `Run` and the construction of every role name (stable identifiers only) -/
theorem C10_tie_launch_and_roles : Tie.runLaunches = true ∧ Tie.roles = true := C10Launch.C10_tie_launch

/-- non-vacuity: the former counterexample -3 with two shards is now handled by shard 2 only -/
example : shardOut 1 2 (-3) = true ∧ shardOut 2 2 (-3) = false ∧ shardOut 1 2 4 = false ∧ shardOut 2 2 4 = true := by
  decide +kernel

end WorkflowModel.C10
