import WorkflowModel.Lemmas.Shapes
import WorkflowModel.Props.C02Graph
import WorkflowModel.Props.Tie
/-! # C02 (engine part) — the updater writes a status change only along a declared transition

`validate` is the model of `validateTransition` (its two tests regenerated from update.go); `cfg.edges` are the
(from, to) pairs of all AddStep / AddCallback / AddTimeout calls in builder order. Over whole histories:
`History.C02_status_path`, `C02_first_status_declared` (Props/History.lean). -/
namespace WorkflowModel.C02
open WorkflowModel Engine

/-- `validateTransition` accepts exactly the declared transitions — for every list of builder calls, hence every order -/
theorem C02_validate_iff_declared (cfg : Cfg) (a b : Status) : validate cfg a b = true ↔ (a, b) ∈ cfg.edges := by
  rw [← C02_transitions_are_declared cfg.edges a b]
  unfold validate Cfg.graph Gen.G.validateNoTransitions Gen.G.validateFound
  generalize Graph.transitions (Graph.build cfg.edges) a = nodes
  dsimp only
  split
  · next h =>
    -- the emptiness test decides nothing: an empty list has no match either
    rw [List.length_eq_zero_iff.mp (Int.ofNat_eq_zero.mp (of_decide_eq_true h))]
    exact ⟨nofun, nofun⟩
  · simp only [List.any_eq_true, decide_eq_true_eq, exists_eq_right]

/-- If the updater changes anything, the re-read record was still at the expected status and the transition is declared:
a persisted status change made by a step, callback or timeout function is along a declared edge from the status the
run was persisted at when the updater re-read it — for every environment. -/
theorem C02_updater_declared (cfg : Cfg) (current next : Status) (run : Rec) (o : Obj) (env : Env) (st : OpSt)
    (hchg : (updater cfg current next run o env st).2.sys ≠ st.sys) :
    (current, next) ∈ cfg.edges ∧ ∃ latest, (lookupRes st.sys run.runId st.stale).2 = some latest ∧ latest.status = current := by
  rcases updater_run cfg current next run o env st with ⟨a, st', h, hsys⟩ | ⟨_, st', h, hsys, _⟩ | ⟨latest, _, _, _, hread, hst, hval⟩
  · rw [h] at hchg
    exact absurd hsys hchg
  · rw [h] at hchg
    exact absurd hsys hchg
  · exact ⟨(C02_validate_iff_declared cfg current next).mp hval, latest, hread, hst⟩

/-- An undeclared destination (that is not a skip value) returned while the run is still at the expected status:
nothing is written and the updater fails — `Callback` returns the error, a consumer does not acknowledge and retries. -/
theorem C02_undeclared_no_write (cfg : Cfg) (current next : Status) (run : Rec) (o : Obj) (env : Env) (st : OpSt)
    (latest : Rec) (hread : (lookupRes st.sys run.runId st.stale).2 = some latest) (hst : latest.status = current)
    (hund : (current, next) ∉ cfg.edges) :
    (updater cfg current next run o env st).2.sys = st.sys ∧ ∃ a, (updater cfg current next run o env st).1 = .error a := by
  rcases updater_run cfg current next run o env st with ⟨a, st', h, hsys⟩ | ⟨_, _, _, _, hl, hne⟩ | ⟨_, _, _, _, _, _, hval⟩
  · rw [h]
    exact ⟨hsys, a, rfl⟩
  · rw [hread] at hl
    cases hl
    exact absurd hst hne
  · exact absurd ((C02_validate_iff_declared cfg current next).mp hval) hund

/-- The skip values are 0 and -1 (regenerated from status.go). The step, callback and timeout paths of the model test
`skipValues.contains next` before they call the updater — also when a workflow declares 0 as a status. -/
theorem C02_skip_values : Gen.skipValues = [0, -1] := by decide

/-- Trigger starts a run only at a declared status: the requested one if non-zero, otherwise the default starting point
(first source in builder order that is never a destination). -/
theorem C02_trigger_start_declared (cfg : Cfg) (start s0 : Status) (h : triggerStart cfg start = some s0) :
    Graph.isValid cfg.graph s0 = true ∧ (start ≠ 0 → s0 = start) ∧ (start = 0 → Graph.defaultStart cfg.graph = some s0) := by
  unfold triggerStart Gen.G.triggerUseRequested at h
  split at h
  · cases h
  · next st hst =>
    split at h
    · next hv =>
      cases h
      refine ⟨hv, fun hne => ?_, fun he => ?_⟩
      · rw [if_pos (decide_eq_true hne)] at hst
        exact (Option.some.inj hst).symm
      · rw [he] at hst
        exact hst
    · cases h

/-- T2: the updater marshals, classifies the destination, re-reads, validates and only then stores -/
theorem C02_tie_order : Tie.updater = true ∧ Tie.processCallback = true ∧ Tie.trigger = true :=
  ⟨beq_self_eq_true _, beq_self_eq_true _, beq_self_eq_true _⟩

/-- non-vacuity: an undeclared destination (3 from status 1, only 1→2 declared) is not persisted, the consumer backs off -/
example :
    let cfg : Cfg := { calls := [{ kind := .step, src := 1, dests := [2] }, { kind := .step, src := 2, dests := [3] }] }
    let s := runActs cfg {} [.trigger 0 0 7 {}, .step .outbox {}, .step (.step 1 1 1) {}, .step (.step 1 1 1) { outcomes := [.ret 3 9] }]
    (s.cur 0).map (fun r => (r.status, r.version)) = some (1, 1) ∧ s.pstate (.step 1 1 1) = .backoff 1 := by
  decide +kernel

end WorkflowModel.C02
