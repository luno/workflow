import WorkflowModel.Lemmas.Shapes
import WorkflowModel.Props.C03Table
import WorkflowModel.Props.Tie
/-! # C09 — One unfinished run per foreign ID; Trigger creates exactly one run or nothing

`triggerApi` is the model of `trigger`; the in-progress test is `Gen.G.triggerInProgress` (regenerated from
trigger.go: `Valid() && !Finished()`); `latestRes` is the reference-store `Latest`: the newest CREATED run of the foreign
ID (bundled stores are tied to that contract by C17/C18). Over every reachable state: `History.C09_one_unfinished_run`
(Props/History.lean). -/
namespace WorkflowModel.C09
open WorkflowModel Engine

/-- the guard: a new run is refused exactly when the latest run's state is Initiated, Running or Paused -/
theorem C09_in_progress_iff (rs : Int) : Gen.G.triggerInProgress rs = true ↔ (rs = 1 ∨ rs = 2 ∨ rs = 3) := by
  unfold Gen.G.triggerInProgress
  rw [Bool.and_eq_true, Bool.not_eq_true', ← Bool.not_eq_true, C03.C03_valid_agrees, C03.C03_finished_agrees]
  unfold RS.FinishedSpec
  omega

/-- Trigger writes at most one record, and if it writes, it is a brand-new run: fresh run ID (the next ordinal),
Initiated, version 1, the given initial value, at a declared start status, created now — for every fault plan. -/
theorem C09_trigger_writes_one_new_run (cfg : Cfg) (fid : Fid) (start : Status) (n : Obj) (env : Env) (st : OpSt) :
    (triggerApi cfg fid start n env st).2.sys = st.sys ∨
    ∃ s0, triggerStart cfg start = some s0 ∧ (triggerApi cfg fid start n env st).2.sys =
      st.sys.write cfg { triggerRec fid s0 n st.sys.now st.sys.runs.length with version := 1 } := by
  unfold triggerApi
  cases hs : triggerStart cfg start with
  | none => exact Or.inl rfl
  | some s0 =>
    dsimp only
    rw [bind_run]
    rcases latest_run fid env st with ⟨_, _, h, hsys, _⟩ | ⟨st', h, hsys, _⟩ <;> rw [h]
    · exact Or.inl hsys
    · dsimp only
      split
      · exact Or.inl hsys
      · rw [getSys_bind, bind_pure_snd, ← hsys]
        exact (store_run_any cfg _ env st').1.imp_right fun h => ⟨s0, rfl, h⟩

/-- While the latest run of the foreign ID is unfinished, Trigger fails with ErrWorkflowInProgress and writes nothing. -/
theorem C09_in_progress_rejected (cfg : Cfg) (fid : Fid) (start : Status) (n : Obj) (env : Env) (st : OpSt) (last : Rec)
    (hlast : latestRes st.sys fid = some last) (hunf : last.runState = 1 ∨ last.runState = 2 ∨ last.runState = 3) :
    (triggerApi cfg fid start n env st).2.sys = st.sys ∧ ∃ a, (triggerApi cfg fid start n env st).1 = .error a := by
  unfold triggerApi
  cases triggerStart cfg start with
  | none => exact ⟨rfl, _, rfl⟩
  | some s0 =>
    dsimp only
    rw [bind_run]
    rcases latest_run fid env st with ⟨a, _, h, hsys, _⟩ | ⟨st', h, hsys, _⟩ <;> rw [h]
    · exact ⟨hsys, a, rfl⟩
    · rw [hlast]
      dsimp only
      rw [Option.map_some, Option.getD_some, if_pos ((C09_in_progress_iff _).mpr hunf)]
      exact ⟨hsys, _, rfl⟩

/-- A finished (or absent) latest run does not block: the guard lets Completed, Cancelled, RequestedDataDeleted and
DataDeleted through, and also the zero record used when nothing exists. -/
theorem C09_finished_not_blocking (rs : Int) (h : rs = 0 ∨ rs = 4 ∨ rs = 5 ∨ rs = 6 ∨ rs = 7) :
    Gen.G.triggerInProgress rs = false :=
  Bool.eq_false_iff.mpr fun hx => by have := (C09_in_progress_iff rs).mp hx; omega

/-- An undeclared starting status is rejected before any adapter call. -/
theorem C09_undeclared_start_rejected (cfg : Cfg) (fid : Fid) (start : Status) (n : Obj) (env : Env) (st : OpSt)
    (hund : triggerStart cfg start = none) : triggerApi cfg fid start n env st = (.error (.err 311), st) := by
  unfold triggerApi
  rw [hund]
  rfl

theorem C09_tie_order : Tie.trigger = true ∧ Tie.schedule = true :=
  ⟨beq_self_eq_true _, beq_self_eq_true _⟩

/-- non-vacuity: a second Trigger on the same foreign ID is refused while the first run is unfinished, accepted after it
completed; the other foreign ID is independent -/
example :
    let cfg : Cfg := { calls := [{ kind := .step, src := 1, dests := [2] }] }
    let s1 := runActs cfg {} [.trigger 0 0 7 {}, .trigger 0 0 8 {}, .trigger 1 0 9 {}]
    let s2 := runActs cfg s1 [.step .outbox {}, .step (.step 1 1 1) {}, .step (.step 1 1 1) { outcomes := [.ret 2 1] }, .trigger 0 0 5 {}]
    s1.runs.length = 2 ∧ s2.runs.length = 3 ∧ (s2.runs.map (·.fid)) = [0, 1, 0] := by
  decide +kernel

end WorkflowModel.C09
