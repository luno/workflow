import WorkflowModel.Lemmas.Stable
import WorkflowModel.Props.Tie
/-! # C07 — Events are acknowledged only after successful handling; failures are redelivered

`deliver` is the body of `consume` after the lag wait (filter, handle, ack), `recvOp` the part from `Recv` on, `procOp`
the surrounding `runOnce`. Every background consumer kind (steps, timeout inserter, hooks, delete, paused-retry) is an
instance: `handle` dispatches on the process. Statements hold for every environment (fault plan at any adapter call,
user-function outcomes, stale reads); the three that say what an operation does when nothing fails (`ack_effect`, `lag_waits`,
`no_lag_delivers`) ask that the call it makes is live, and the property statements take the empty environment. The lag test is `Gen.G.consumeMustWait`/`consumeDelay`, regenerated from
consumer.go. Connector consumers share `consume` in the code; their event round trip (JSON) is outside the model. -/
namespace WorkflowModel.C07
open WorkflowModel Engine

/-- When the handler fails (its own error, any adapter error inside it, a crash), no cursor moves and the delivery fails, so
the same event is received again. -/
theorem C07_failure_no_ack (cfg : Cfg) (p : Proc) (i : Nat) (e : Event) (env : Env) (st : OpSt) (a : Abort)
    (hnf : filteredOut p i e = false) (hfail : (handle cfg p e env st).1 = .error a) :
    (deliver cfg p i e env st).2.sys.cursors = st.sys.cursors ∧ (deliver cfg p i e env st).1 = .error a := by
  unfold deliver
  rw [hnf, if_neg Bool.false_ne_true, bind_run]
  have hframe := handle_frame cfg p e env st
  rcases hh : handle cfg p e env st with ⟨r, st'⟩
  rw [hh] at hfail hframe
  cases hfail
  exact ⟨hframe.1, rfl⟩

/-- Read the other way: the cursor of the consumer (of any consumer) moves during a delivery only if a filter excluded the
event or the handler returned without error — whatever the consumer kind, whatever the fault plan. -/
theorem C07_ack_after_ok (cfg : Cfg) (p : Proc) (i : Nat) (e : Event) (env : Env) (st : OpSt)
    (hmoved : (deliver cfg p i e env st).2.sys.cursors ≠ st.sys.cursors) :
    filteredOut p i e = true ∨ (handle cfg p e env st).1 = .ok () := by
  cases hnf : filteredOut p i e with
  | true => exact Or.inl rfl
  | false =>
    rcases hh : (handle cfg p e env st).1 with a | ⟨⟩
    · exact absurd (C07_failure_no_ack cfg p i e env st a hnf hh).1 hmoved
    · exact Or.inr rfl

/-- The acknowledgement sets the cursor just past the delivered event: it will not be delivered again, later events will. -/
theorem ack_effect (p : Proc) (i : Nat) (env : Env) (st : OpSt) (hc : st.cancelled = false)
    (hf : env.faults.lookup st.callN = none) : ((ack p i) env st).2.sys.cursor p = i + 1 := by
  simp [Engine.ack, Engine.call, hc, hf, cursor_setCursor]

theorem C07_ack_effect (p : Proc) (i : Nat) (st : OpSt) (hc : st.cancelled = false) :
    ((ack p i) {} st).2.sys.cursor p = i + 1 :=
  ack_effect p i {} st hc rfl

/-- A failing operation of a consumer that holds its role: the receiver is closed and the process backs off for the
configured error back-off (then re-acquires the role); when the role was lost (context cancelled) it goes straight back
to acquiring the role. In both cases the process is NOT parked on `Recv` any more and never terminates. -/
theorem C07_failure_backoff (cfg : Cfg) (p : Proc) (env : Env) (st : OpSt) (a : Abort)
    (hfail : (procBody cfg p (st.sys.pstate p) env st).1 = .error a) :
    let st' := (procBody cfg p (st.sys.pstate p) env st).2
    (st'.cancelled = false → ((procOp cfg p) env st).2.sys.pstate p = .backoff (st'.sys.now + cfg.backoffSec)) ∧
    (st'.cancelled = true → ((procOp cfg p) env st).2.sys.pstate p = .needRole) := by
  intro st'
  rw [procOp_sys, pstate_setPState, hfail]
  exact ⟨fun hc => by rw [hc]; rfl, fun hc => by rw [hc]; rfl⟩

/-- Consume lag: an event younger than the lag is not handled at `Recv`; the consumer parks until exactly
`createdAt + lag` on the workflow clock, nothing is written and no function is invoked meanwhile. -/
theorem lag_waits (cfg : Cfg) (p : Proc) (env : Env) (st : OpSt) (i : Nat) (e : Event)
    (hl : CallLive env st) (hidx : st.sys.nextIndex p = some i) (hev : st.sys.log[i]? = some e)
    (hlag : 0 < procLag cfg p) (hyoung : st.sys.now - e.createdAt < procLag cfg p) :
    ((recvOp cfg p) env st).1 = .ok (.lagWait i (e.createdAt + procLag cfg p)) ∧
    ((recvOp cfg p) env st).2.sys = st.sys ∧ ((recvOp cfg p) env st).2.outI = st.outI := by
  rw [recvOp_run_ok hl hidx hev, afterRecv_wait ⟨hlag, hyoung⟩]
  exact ⟨rfl, rfl, rfl⟩

theorem C07_lag_waits (cfg : Cfg) (p : Proc) (st : OpSt) (i : Nat) (e : Event)
    (hc : st.cancelled = false) (hidx : st.sys.nextIndex p = some i) (hev : st.sys.log[i]? = some e)
    (hlag : 0 < procLag cfg p) (hyoung : st.sys.now - e.createdAt < procLag cfg p) :
    ((recvOp cfg p) {} st).1 = .ok (.lagWait i (e.createdAt + procLag cfg p)) ∧
    ((recvOp cfg p) {} st).2.sys = st.sys ∧ ((recvOp cfg p) {} st).2.outI = st.outI :=
  lag_waits cfg p {} st i e ⟨hc, rfl⟩ hidx hev hlag hyoung

/-- … and the parked consumer can only be released once the event has aged by the lag (`Sys.enabled`). -/
theorem C07_lag_release (s : Sys) (p : Proc) (i : Nat) (u : Int) (h : s.pstate p = .lagWait i u) :
    s.enabled p = true ↔ u ≤ s.now := by
  simp [Sys.enabled, h]

/-- An event that is old enough (or no lag configured) is delivered at once. -/
theorem no_lag_delivers (cfg : Cfg) (p : Proc) (env : Env) (st : OpSt) (i : Nat) (e : Event)
    (hl : CallLive env st) (hidx : st.sys.nextIndex p = some i) (hev : st.sys.log[i]? = some e)
    (hold : procLag cfg p ≤ 0 ∨ procLag cfg p ≤ st.sys.now - e.createdAt) :
    (recvOp cfg p) env st =
      ((do deliver cfg p i e; pure PState.atRecv : M PState) env
        { st with callN := st.callN + 1, obs := ("recv" ++ ("(" ++ evStr i e ++ ")")) :: st.obs }) := by
  rw [recvOp_run_ok hl hidx hev, afterRecv_deliver (by omega)]

theorem C07_no_lag_delivers (cfg : Cfg) (p : Proc) (st : OpSt) (i : Nat) (e : Event)
    (hc : st.cancelled = false) (hidx : st.sys.nextIndex p = some i) (hev : st.sys.log[i]? = some e)
    (hold : procLag cfg p ≤ 0 ∨ procLag cfg p ≤ st.sys.now - e.createdAt) :
    (recvOp cfg p) {} st =
      ((do deliver cfg p i e; pure PState.atRecv : M PState) {}
        { st with callN := st.callN + 1, obs := ("recv" ++ ("(" ++ evStr i e ++ ")")) :: st.obs }) :=
  no_lag_delivers cfg p {} st i e ⟨hc, rfl⟩ hidx hev hold

/-- Every consumer kind runs the same loop: from the `Recv` gate the operation is `recvOp`, whatever the process. (That
`deliver` is the only path to a handler is `procBody_work`, Lemmas/Shapes.lean.) -/
theorem C07_all_consumers (cfg : Cfg) (p : Proc) :
    procBody cfg p .atRecv = recvOp cfg p := rfl

/-- T2: `consume` — recv, lag timer, filter, ack-if-filtered, handler, ack, each error propagated; `runOnce`; the
per-consumer wrapper opens the receiver, defers Close and calls consume. -/
theorem C07_tie_order : Tie.consume = true ∧ Tie.runOnce = true ∧ Tie.stepProcess = true ∧ Tie.inserter = true ∧
    Tie.runHook = true ∧ Tie.runDelete = true ∧ Tie.autoRetry = true :=
  ⟨beq_self_eq_true _, beq_self_eq_true _, beq_self_eq_true _, beq_self_eq_true _, beq_self_eq_true _, beq_self_eq_true _, beq_self_eq_true _⟩

/-- non-vacuity: a failing step (error outcome) is not acknowledged, the consumer backs off, and after the back-off the
same event is delivered again and handled -/
example :
    let cfg : Cfg := { calls := [{ kind := .step, src := 1, dests := [2] }], backoffSec := 5 }
    let pre : List Act := [.trigger 0 0 7 {}, .step .outbox {}, .step (.step 1 1 1) {}]
    let s1 := runActs cfg {} (pre ++ [.step (.step 1 1 1) { outcomes := [.err 0] }])
    let s2 := runActs cfg s1 [.tick 5, .step (.step 1 1 1) {}, .step (.step 1 1 1) {}, .step (.step 1 1 1) { outcomes := [.ret 2 8] }]
    s1.cursor (.step 1 1 1) = 0 ∧ s1.pstate (.step 1 1 1) = .backoff 5 ∧ s2.cursor (.step 1 1 1) = 1 ∧
      (s2.cur 0).map (·.status) = some 2 := by
  decide +kernel

end WorkflowModel.C07
