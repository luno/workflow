import WorkflowModel.Lemmas.Shapes
import WorkflowModel.Props.Tie
import WorkflowModel.Props.C07
/-! # C04 — Duplicate, replayed, reordered or stale events never re-run or regress a run

`stepHandle` is the model of `stepConsumer` (used by step consumers and by the timeout inserter). The version-gate
comparisons are `Gen.G.stepSkipOld` / `Gen.G.stepStale`, regenerated from step.go on every run: flipping `>` to `>=`
or swapping the operands breaks these proofs in the kernel. "No step or timer function is invoked" is stated as
"no user-function outcome is consumed" (`outI` unchanged — every invocation consumes one) and as independence of the
handler's result from the function `fn`. All statements hold for every environment: fault plan, outcomes, stale reads.
Over every reachable state: `History.C04_current_announcement_describes_head` (Props/History.lean). -/
namespace WorkflowModel.C04
open WorkflowModel Engine

variable (cfg : Cfg) (p : Proc) (status : Status) (pa : Int) (e : Event)

/-- THE VERSION GATE (decision logic of `stepConsumer` on the record the store returned), with the generated comparisons read as
what they decide: an older announcement is skipped, a newer one (lagging read) is an error, a stopped run is skipped -/
theorem C04_gate (fn : Rec → M (Except Abort FnRes × Rec)) (record : Rec) :
    stepGate cfg p pa e record fn =
      if record.version > e.version then pure ()
      else if record.version < e.version then throwA (.err errStale)
      else if Gen.stopped record.runState then pure ()
      else stepRun cfg p pa record fn :=
  stepGate_eq cfg p pa e record fn

/-- Older announcement: return normally at once — nothing else happens. -/
theorem C04_gate_old (fn : Rec → M (Except Abort FnRes × Rec)) (env : Env) (st : OpSt) (record : Rec)
    (hold : record.version > e.version) : stepGate cfg p pa e record fn env st = (.ok (), st) := by
  rw [C04_gate, if_pos hold]
  rfl

/-- Newer announcement (lagging read): fail at once — nothing else happens. -/
theorem C04_gate_newer (fn : Rec → M (Except Abort FnRes × Rec)) (env : Env) (st : OpSt) (record : Rec)
    (hnew : record.version < e.version) : stepGate cfg p pa e record fn env st = (.error (.err errStale), st) := by
  rw [C04_gate, if_neg (Int.lt_asymm hnew), if_pos hnew]
  rfl

/-- Equal versions and a run that is not stopped: the event is handled (the step runs). -/
theorem C04_gate_current (fn : Rec → M (Except Abort FnRes × Rec)) (env : Env) (st : OpSt) (record : Rec)
    (heq : record.version = e.version) (hrun : Gen.stopped record.runState = false) :
    stepGate cfg p pa e record fn env st = stepRun cfg p pa record fn env st := by
  rw [C04_gate, heq, if_neg (Int.lt_irrefl _), if_neg (Int.lt_irrefl _), hrun]
  rfl

/-- For an announcement older than the record the store returns, the handler is its read and nothing else. -/
theorem C04_old_event (fn : Rec → M (Except Abort FnRes × Rec)) (env : Env) (st : OpSt) (record : Rec)
    (hread : (lookupRes st.sys e.runId st.stale).2 = some record) (hold : record.version > e.version) :
    stepHandle cfg p status pa e fn env st = (lookup e.runId >>= fun _ => pure ()) env st := by
  unfold stepHandle
  rw [bind_run, bind_run]
  rcases lookup_run e.runId env st with ⟨a, st', hl, _⟩ | ⟨st', hl, _⟩ <;> rw [hl]
  -- (a failed read: both sides are that failure, closed by the `rw`) the read answered: the gate returns at once
  rw [hread]
  exact C04_gate_old cfg p pa e fn env st' record hold

/-- An announcement older than the record the store returns: nothing is written, no function is invoked; the handler
returns normally (so the event is acknowledged) unless the lookup itself failed. -/
theorem C04_old_event_noop (fn : Rec → M (Except Abort FnRes × Rec)) (env : Env) (st : OpSt) (record : Rec)
    (hread : (lookupRes st.sys e.runId st.stale).2 = some record) (hold : record.version > e.version) :
    (stepHandle cfg p status pa e fn env st).2.sys = st.sys ∧
    (stepHandle cfg p status pa e fn env st).2.outI = st.outI ∧
    (env.faults.lookup st.callN = none → st.cancelled = false → (stepHandle cfg p status pa e fn env st).1 = .ok ()) := by
  rw [C04_old_event cfg p status pa e fn env st record hread hold]
  rcases lookup_bind e.runId (fun _ => pure ()) env st with ⟨a, st', h, hsys, hout, _, hfault⟩ | ⟨st', h, hsys, hout, _⟩ <;> rw [h]
  · exact ⟨hsys, hout, fun hf hc => (hfault ⟨hc, hf⟩).elim⟩
  · exact ⟨hsys, hout, fun _ _ => rfl⟩

/-- … and the function is never consulted: the handler's behaviour does not depend on it -/
theorem C04_old_event_fn_irrelevant (fn fn' : Rec → M (Except Abort FnRes × Rec)) (env : Env) (st : OpSt) (record : Rec)
    (hread : (lookupRes st.sys e.runId st.stale).2 = some record) (hold : record.version > e.version) :
    stepHandle cfg p status pa e fn env st = stepHandle cfg p status pa e fn' env st := by
  rw [C04_old_event cfg p status pa e fn env st record hread hold, C04_old_event cfg p status pa e fn' env st record hread hold]

/-- An announcement NEWER than what the store returns (a lagging read replica): the handler fails — so the event is
neither acknowledged nor dropped — without writing anything and without invoking any function. -/
theorem C04_newer_event_retried (fn : Rec → M (Except Abort FnRes × Rec)) (env : Env) (st : OpSt) (record : Rec)
    (hread : (lookupRes st.sys e.runId st.stale).2 = some record) (hnew : record.version < e.version) :
    (∃ a, (stepHandle cfg p status pa e fn env st).1 = .error a) ∧
    (stepHandle cfg p status pa e fn env st).2.sys = st.sys ∧
    (stepHandle cfg p status pa e fn env st).2.outI = st.outI := by
  unfold stepHandle
  rcases lookup_bind e.runId _ env st with ⟨a, st', h, hsys, hout, _⟩ | ⟨st', h, hsys, hout, _⟩ <;> rw [h]
  · exact ⟨⟨a, rfl⟩, hsys, hout⟩
  · rw [hread]
    dsimp only
    rw [C04_gate_newer cfg p pa e fn env st' record hnew]
    exact ⟨⟨_, rfl⟩, hsys, hout⟩

/-- At the level of the consume loop: a delivery whose handler fails moves no cursor (the event is received again). -/
theorem newer_event_not_acked (fn : Rec → M (Except Abort FnRes × Rec)) (hh : handle cfg p e = stepHandle cfg p status pa e fn)
    (i : Nat) (env : Env) (st : OpSt) (record : Rec) (hnf : filteredOut p i e = false)
    (hread : (lookupRes st.sys e.runId st.stale).2 = some record) (hnew : record.version < e.version) :
    (deliver cfg p i e env st).2.sys.cursors = st.sys.cursors ∧ ∃ a, (deliver cfg p i e env st).1 = .error a := by
  obtain ⟨⟨a, ha⟩, _⟩ := C04_newer_event_retried cfg p status pa e fn env st record hread hnew
  have := C07.C07_failure_no_ack cfg p i e env st a hnf (hh ▸ ha)
  exact ⟨this.1, a, this.2⟩

theorem C04_newer_event_not_acked (i : Nat) (env : Env) (st : OpSt) (record : Rec) (s : Status) (sh tot : Int)
    (hnf : filteredOut (.step s sh tot) i e = false)
    (hread : (lookupRes st.sys e.runId st.stale).2 = some record) (hnew : record.version < e.version) :
    (deliver cfg (.step s sh tot) i e env st).2.sys.cursors = st.sys.cursors ∧
    ∃ a, (deliver cfg (.step s sh tot) i e env st).1 = .error a :=
  newer_event_not_acked cfg _ s _ e _ rfl i env st record hnf hread hnew

/-- One delivery of an announcement that is older than the record the store returns, to a step consumer, under any fault plan:
nothing but cursors has changed afterwards. -/
theorem old_delivery_moves_only_cursors (fn : Rec → M (Except Abort FnRes × Rec))
    (hh : handle cfg p e = stepHandle cfg p status pa e fn) (i : Nat) (env : Env) (st : OpSt) (record : Rec)
    (hread : (lookupRes st.sys e.runId st.stale).2 = some record) (hold : record.version > e.version) :
    ∃ c, (deliver cfg p i e env st).2.sys = { st.sys with cursors := c } := by
  have hack : ∀ st1 : OpSt, ∃ c, (ack p i env st1).2.sys = { st1.sys with cursors := c } := fun st1 =>
    (ack_sys _ i env st1).elim (fun h => ⟨_, h⟩) (fun h => ⟨_, h⟩)
  have hh : (handle cfg p e env st).2.sys = st.sys :=
    hh ▸ (C04_old_event_noop cfg p status pa e fn env st record hread hold).1
  unfold deliver
  split
  · exact hack st
  · rw [bind_run, ← hh]
    rcases handle cfg p e env st with ⟨_ | _, st'⟩
    · exact ⟨_, rfl⟩
    · exact hack st'

theorem C04_old_delivery_moves_only_cursors (i : Nat) (env : Env) (st : OpSt) (record : Rec) (s : Status) (sh tot : Int)
    (hread : (lookupRes st.sys e.runId st.stale).2 = some record) (hold : record.version > e.version) :
    ∃ c, (deliver cfg (.step s sh tot) i e env st).2.sys = { st.sys with cursors := c } :=
  old_delivery_moves_only_cursors cfg _ s _ e _ rfl i env st record hread hold

/-- Redelivering announcements that are older than their records — any of them, any number of times, in any order, to
any step consumers, under any fault plans — leaves every record, the outbox, the stream log and the timers unchanged;
only cursors move. (Each record stays newer than its announcement because nothing is written.) -/
theorem redelivery_moves_only_cursors (ds : List (Status × Int × Int × Nat × Event × Env)) (s0 : Sys)
    (hold : ∀ d ∈ ds, ∃ record, s0.cur d.2.2.2.2.1.runId = some record ∧ record.version > d.2.2.2.2.1.version) :
    ∃ c, ds.foldl (fun s d =>
      (deliver cfg (.step d.1 d.2.1 d.2.2.1) d.2.2.2.1 d.2.2.2.2.1 d.2.2.2.2.2 { sys := s, stale := 0 }).2.sys) s0 =
        { s0 with cursors := c } := by
  induction ds generalizing s0 with
  | nil => exact ⟨_, rfl⟩
  | cons d rest ih =>
    obtain ⟨record, hcur, hv⟩ := hold d (List.mem_cons_self ..)
    obtain ⟨s, sh, tot, i, e, env⟩ := d
    obtain ⟨c, h⟩ := C04_old_delivery_moves_only_cursors cfg e i env { sys := s0, stale := 0 } record s sh tot
      (by rw [lookupRes_fresh]; exact hcur) hv
    simp only [List.foldl_cons]
    rw [h]
    exact ih { s0 with cursors := c } fun d' hd' => hold d' (List.mem_cons_of_mem _ hd')

theorem C04_redelivery_idempotent (ds : List (Status × Int × Int × Nat × Event × Env)) (s0 : Sys)
    (hold : ∀ d ∈ ds, ∃ record, s0.cur d.2.2.2.2.1.runId = some record ∧ record.version > d.2.2.2.2.1.version) :
    let final := ds.foldl (fun s d =>
      (deliver cfg (.step d.1 d.2.1 d.2.2.1) d.2.2.2.1 d.2.2.2.2.1 d.2.2.2.2.2 { sys := s, stale := 0 }).2.sys) s0
    final.runs = s0.runs ∧ final.outbox = s0.outbox ∧ final.log = s0.log ∧ final.timers = s0.timers := by
  obtain ⟨c, h⟩ := redelivery_moves_only_cursors cfg ds s0 hold
  simp only [h, and_self]

/-- T2: order of the calls in `stepConsumer` and in the updater it ends with -/
theorem C04_tie_order : Tie.stepConsumer = true ∧ Tie.updater = true :=
  ⟨beq_self_eq_true _, beq_self_eq_true _⟩

/-- non-vacuity: the hypotheses are met by a real history (a step advanced run 0 to version 2; event 0 announces
version 1 and is redelivered after a cursor rewind) and the redelivery is a no-op -/
example :
    let cfg : Cfg := { calls := [{ kind := .step, src := 1, dests := [2] }, { kind := .step, src := 2, dests := [3] }] }
    let acts : List Act := [.trigger 0 0 7 {}, .step .outbox {}, .step (.step 1 1 1) {}, .step (.step 1 1 1) { outcomes := [.ret 2 8] }]
    let s := runActs cfg {} acts
    let s' := runActs cfg s [.rewind (.step 1 1 1) 0, .step (.step 1 1 1) { outcomes := [.ret 2 9] }]
    (s.cur 0).map (·.version) = some 2 ∧ s'.runs.map (·.hist.length) = s.runs.map (·.hist.length) ∧ s'.cursor (.step 1 1 1) = 1 := by
  decide +kernel

end WorkflowModel.C04
