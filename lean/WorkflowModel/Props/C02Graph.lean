import WorkflowModel.Lemmas.Graph
/-! # C02 / C03 (graph part) — the declared-edge relation and the terminal classification

`Graph.build es` is the fold of the transcription of `AddTransition` over the builder calls `es` in call
order. The statements hold for every list of calls, hence for every order of the same calls. -/
namespace WorkflowModel.C02
open WorkflowModel Graph

/-- the transitions the updater validates against are exactly the declared (from, to) pairs -/
theorem C02_transitions_are_declared (es : List (Int × Int)) (a b : Int) :
    b ∈ transitions (build es) a ↔ (a, b) ∈ es := mem_transitions_iff es a b

/-- a status is a valid starting status iff it occurs in some builder call -/
theorem C02_valid_iff_declared (es : List (Int × Int)) (n : Int) :
    isValid (build es) n = true ↔ ∃ p ∈ es, p.1 = n ∨ p.2 = n := isValid_iff es n

/-- declared edges do not depend on the order of the builder calls -/
theorem C02_transitions_perm (es es' : List (Int × Int)) (h : ∀ p, p ∈ es ↔ p ∈ es') (a b : Int) :
    b ∈ transitions (build es) a ↔ b ∈ transitions (build es') a := by
  rw [mem_transitions_iff, mem_transitions_iff, h]

/-- (C03) the terminal classification is independent of the order of the builder calls -/
theorem C03_terminal_perm (es es' : List (Int × Int)) (h : ∀ p, p ∈ es ↔ p ∈ es') (n : Int) :
    isTerminal (build es) n = isTerminal (build es') n :=
  Bool.eq_iff_iff.mpr (by simp only [isTerminal_iff, h])

/-- (C03) a terminal status has no outgoing transitions, so `validateTransition` rejects everything there -/
theorem C03_terminal_no_transitions (es : List (Int × Int)) (n : Int) (h : isTerminal (build es) n = true) :
    transitions (build es) n = [] :=
  List.eq_nil_iff_forall_not_mem.mpr fun b hb =>
    ((isTerminal_iff es n).mp h).2 ⟨b, (mem_transitions_iff es n b).mp hb⟩

/-- non-vacuity: a join, a branch and a self-loop, declared in "non-flow" order -/
example : transitions (build [(2, 3), (1, 2), (1, 3), (2, 2)]) 2 = [3, 2] ∧
    isTerminal (build [(2, 3), (1, 2), (1, 3), (2, 2)]) 3 = true ∧
    isTerminal (build [(2, 3), (1, 2), (1, 3), (2, 2)]) 2 = false := by decide

end WorkflowModel.C02
