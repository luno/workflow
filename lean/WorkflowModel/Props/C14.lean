import WorkflowModel.Lemmas.Stable
import WorkflowModel.Props.C07
/-! # C14 — Run-state hooks fire at least once per entry and only for their own state

One consumer per registered hook on the run-state-change topic, filtered by the `run_state` header (`filteredOut`);
`hookHandle` models `runHook`. "At least once, not lost by a crash between invocation and acknowledgement, re-invoked
until nil" is C07 (the cursor moves only after the handler returned without error) + C05 (every write is published)
instantiated for hook consumers; "only for its own state" is the filter plus routing (C06). -/
namespace WorkflowModel.C14
open WorkflowModel Engine

/-- The hook of run state `rs` handles an event only if the event's `run_state` header is `rs`; every other event of the
topic is acknowledged unhandled. -/
theorem C14_only_own_state (rs : RunState) (i : Nat) (e : Event) : filteredOut (.hook rs) i e = true ↔ e.runState ≠ rs := by
  simp [filteredOut]

/-- Every write whose run state is Paused, Cancelled or Completed is announced on the topic the hook consumers read,
carrying that run state in its header (routing, C06). -/
theorem on_rsc_topic (r : Rec) (hk : Gen.outboxTopicKind r.runState = 2) :
    subscribed (.hook r.runState) (Routing.route r) = true ∧ (Routing.route r).runState = r.runState ∧
    filteredOut (.hook r.runState) 0 (Routing.route r) = false := by
  refine ⟨?_, rfl, bne_self_eq_false _⟩
  show (Gen.outboxTopicKind r.runState == 2) = true
  rw [hk]
  rfl

theorem C14_hooked_states_on_rsc_topic (r : Rec) (h : r.runState = 3 ∨ r.runState = 4 ∨ r.runState = 5) :
    subscribed (.hook r.runState) (Routing.route r) = true ∧ (Routing.route r).runState = r.runState ∧
    filteredOut (.hook r.runState) 0 (Routing.route r) = false :=
  on_rsc_topic r (by rcases h with h | h | h <;> rw [h] <;> rfl)

/-- A failing hook is not acknowledged (so it is re-invoked until it returns nil) and an acknowledged hook event was
handled without error: C07 for hook consumers, every fault plan. -/
theorem C14_retry_until_nil (cfg : Cfg) (rs : RunState) (i : Nat) (e : Event) (env : Env) (st : OpSt)
    (hown : e.runState = rs) (hmoved : (deliver cfg (.hook rs) i e env st).2.sys.cursors ≠ st.sys.cursors) :
    (hookHandle cfg rs e env st).1 = .ok () := by
  have := C07.C07_ack_after_ok cfg (.hook rs) i e env st hmoved
  rcases this with h | h
  · exact absurd hown ((C14_only_own_state rs i e).mp h)
  · exact h

/-- "Not lost by a crash between invocation and acknowledgement": whatever the hook's failure was — an error of its own, or
an error because its process lost the role while it ran (`Outcome.lost`) — and whether or not the streamer's
acknowledgement looks at the cancelled context (`env.ackIgn`), a delivery whose hook did not return nil leaves the cursor
where it was, so the event is delivered again. -/
theorem C14_failed_hook_never_acked (cfg : Cfg) (rs : RunState) (i : Nat) (e : Event) (env : Env) (st : OpSt)
    (hown : e.runState = rs) (hfail : (hookHandle cfg rs e env st).1 ≠ .ok ()) :
    (deliver cfg (.hook rs) i e env st).2.sys.cursors = st.sys.cursors :=
  Decidable.byContradiction fun hmoved => hfail (C14_retry_until_nil cfg rs i e env st hown hmoved)

/-- The hook is not invoked when the run's object no longer decodes (its data was deleted in the meantime): the event is
skipped and acknowledged — the exception the property names. -/
theorem deleted_data_skipped (cfg : Cfg) (rs : RunState) (e : Event) (env : Env) (st : OpSt) (record : Rec)
    (hl : CallLive env st) (hread : (lookupRes st.sys e.runId st.stale).2 = some record) (hdel : record.obj = -7777777) :
    (hookHandle cfg rs e env st).1 = .ok () ∧ (hookHandle cfg rs e env st).2.outI = st.outI := by
  have hd : decodable record.obj = false := by simp [decodable, hdel]
  simp [hookHandle, Engine.lookup, Engine.call, hl.1, hl.2, hread, hd, pure_run, Bind.bind]

theorem C14_deleted_data_skipped (cfg : Cfg) (rs : RunState) (e : Event) (st : OpSt) (record : Rec)
    (hc : st.cancelled = false) (hstale : st.stale = 0) (hread : st.sys.cur e.runId = some record)
    (hdel : record.obj = -7777777) :
    (hookHandle cfg rs e {} st).1 = .ok () ∧ (hookHandle cfg rs e {} st).2.outI = st.outI :=
  deleted_data_skipped cfg rs e {} st record ⟨hc, rfl⟩ (by rw [hstale, lookupRes_fresh]; exact hread) hdel

/-- The hook consumer never writes: a hook can neither regress nor advance a run. -/
theorem C14_hook_never_writes (cfg : Cfg) (rs : RunState) (e : Event) (env : Env) (st : OpSt) :
    (hookHandle cfg rs e env st).2.sys = st.sys := by
  have : Pres (fun s => s = st.sys) (hookHandle cfg rs e) := Pres.hookHandle _ _
  exact this env st rfl

theorem C14_tie_order : Tie.runHook = true ∧ Tie.consume = true :=
  ⟨beq_self_eq_true _, beq_self_eq_true _⟩

/-- non-vacuity: a completion with OnComplete registered; the hook fails once (not acked, back-off), then succeeds (acked);
the OnPause consumer acknowledges the same event without invoking its hook -/
example :
    let cfg : Cfg := { calls := [{ kind := .step, src := 1, dests := [2] }], hooks := [3, 5], backoffSec := 1 }
    let pre : List Act := [.trigger 0 0 7 {}, .step .outbox {}, .step (.step 1 1 1) {}, .step (.step 1 1 1) { outcomes := [.ret 2 8] },
      .step .outbox {}, .step (.hook 5) {}, .step (.hook 3) {}]
    let s1 := runActs cfg {} (pre ++ [.step (.hook 5) { outcomes := [.err 0] }, .step (.hook 3) { outcomes := [.err 0] }])
    let s2 := runActs cfg s1 [.tick 1, .step (.hook 5) {}, .step (.hook 5) {}, .step (.hook 5) { outcomes := [.ok] }]
    s1.cursor (.hook 5) = 0 ∧ s1.cursor (.hook 3) = 2 ∧ s2.cursor (.hook 5) = 2 := by
  decide +kernel

/-- non-vacuity for role loss inside the hook with a streamer that acknowledges under a cancelled context: the hook fails
while its process loses the role (cursor stays, process back at the role scheduler), then succeeds (cursor moves) -/
example :
    let cfg : Cfg := { calls := [{ kind := .step, src := 1, dests := [2] }], hooks := [5], backoffSec := 1 }
    let pre : List Act := [.trigger 0 0 7 {}, .step .outbox {}, .step (.step 1 1 1) {}, .step (.step 1 1 1) { outcomes := [.ret 2 8] },
      .step .outbox {}, .step (.hook 5) {}]
    let s1 := runActs cfg {} (pre ++ [.step (.hook 5) { outcomes := [.lost 0], ackIgn := true }])
    let s2 := runActs cfg s1 [.step (.hook 5) {}, .step (.hook 5) { outcomes := [.ok], ackIgn := true }]
    s1.cursor (.hook 5) = 0 ∧ s1.pstate (.hook 5) = .needRole ∧ s2.cursor (.hook 5) = 2 := by
  decide +kernel

end WorkflowModel.C14
