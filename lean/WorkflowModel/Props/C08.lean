import WorkflowModel.Lemmas.Shapes
import WorkflowModel.Props.C03Engine
/-! # C08 — Paused and cancelled runs are left alone; resume continues from the same status

"No function is invoked" = no user-function outcome is consumed (`outI` unchanged) and the handler does not depend on
the function. The stopped tests are `Gen.G.stepStopped`, `Gen.stopped` (callback path, since the repair of F1),
`Gen.G.pollCancel`, `Gen.G.pollSkipStopped`: regenerated from the source on every run. Stopped = Paused(3),
Cancelled(4), DataDeleted(6), RequestedDataDeleted(7). Over whole histories: `History.C08_stopped_run_unchanged`
(Props/History.lean). -/
namespace WorkflowModel.C08
open WorkflowModel Engine

def Stopped (rs : Int) : Prop := rs = 3 ∨ rs = 4 ∨ rs = 6 ∨ rs = 7

/-- Step consumers and the timeout inserter (decision logic): whatever the versions, for a stopped run the function is
not run: the gate returns at once (skip) or fails at once (stale read) — it never reaches `stepRun`. -/
theorem C08_step_gate_stopped (cfg : Cfg) (p : Proc) (pa : Int) (e : Event) (record : Rec)
    (fn : Rec → M (Except Abort FnRes × Rec)) (env : Env) (st : OpSt) (hs : Stopped record.runState) :
    stepGate cfg p pa e record fn env st = (.ok (), st) ∨ stepGate cfg p pa e record fn env st = (.error (.err errStale), st) := by
  unfold stepGate
  rw [if_pos (show Gen.G.stepStopped record.runState = true from (C03.C03_stopped_agrees _).mpr hs)]
  cases Gen.G.stepSkipOld record.version e.version
  · cases Gen.G.stepStale record.version e.version
    · exact Or.inl rfl
    · exact Or.inr rfl
  · exact Or.inl rfl

/-- … lifted to the handler, for every environment: nothing written, nothing invoked. -/
theorem C08_step_not_invoked_while_stopped (cfg : Cfg) (p : Proc) (status : Status) (pa : Int) (e : Event)
    (fn : Rec → M (Except Abort FnRes × Rec)) (env : Env) (st : OpSt) (record : Rec)
    (hread : (lookupRes st.sys e.runId st.stale).2 = some record) (hs : Stopped record.runState) :
    (stepHandle cfg p status pa e fn env st).2.sys = st.sys ∧ (stepHandle cfg p status pa e fn env st).2.outI = st.outI := by
  unfold stepHandle
  rcases lookup_bind e.runId _ env st with ⟨_, _, h, hsys, hout, _⟩ | ⟨st', h, hsys, hout, _⟩ <;> rw [h]
  · exact ⟨hsys, hout⟩
  · rw [hread]
    dsimp only
    rcases C08_step_gate_stopped cfg p pa e record fn env st' hs with h | h <;> rw [h] <;> exact ⟨hsys, hout⟩

/-- Callback (decision logic): for a stopped run the callback function is not run and nothing is written. -/
theorem C08_callback_gate_stopped (cfg : Cfg) (status : Status) (wr : Rec) (runner : Rec → M (Except Abort FnRes × Rec))
    (env : Env) (st : OpSt) (hs : Stopped wr.runState) : callbackGate cfg status wr runner env st = (.ok (), st) := by
  unfold callbackGate
  rw [if_pos ((C03.C03_stopped_agrees _).mpr hs)]
  cases Gen.G.callbackSkip wr.status status <;> rfl

/-- … for every registered callback of the status, in every environment. -/
theorem C08_callback_not_invoked_while_stopped (cfg : Cfg) (fid : Fid) (status : Status)
    (runner : Rec → M (Except Abort FnRes × Rec)) (env : Env) (st : OpSt) (record : Rec)
    (hlatest : latestRes st.sys fid = some record) (hs : Stopped record.runState) :
    (callbackOne cfg fid status runner env st).2.sys = st.sys ∧ (callbackOne cfg fid status runner env st).2.outI = st.outI := by
  unfold callbackOne
  rw [bind_run]
  rcases latest_run fid env st with ⟨_, _, h, hsys, hout, _⟩ | ⟨st', h, hsys, hout, _⟩ <;> rw [h]
  · exact ⟨hsys, hout⟩
  · rw [hlatest]
    dsimp only
    rw [C08_callback_gate_stopped cfg status record runner env st' hs]
    exact ⟨hsys, hout⟩

/-- Timeout poller (decision logic): for a due timer whose run is stopped the timer is cancelled (run finished, or no
longer at the status) or skipped (paused at the status); no timeout function runs. -/
theorem C08_poll_gate_stopped (cfg : Cfg) (p : Proc) (status : Status) (t : Timer) (r : Rec) (env : Env) (st : OpSt)
    (hs : Stopped r.runState) :
    pollGate cfg p status t r env st = (.ok (), st) ∨
    pollGate cfg p status t r env st = call s!"tcancel({t.id})" (fun s => ("", .ok (), s.timerCancel t.id)) env st := by
  unfold pollGate
  rw [if_pos (show Gen.G.pollSkipStopped r.runState = true from (C03.C03_stopped_agrees _).mpr hs)]
  cases Gen.G.pollCancel r.status status r.runState
  · exact Or.inl rfl
  · exact Or.inr rfl

/-- A paused run at the timer's status is skipped — the timer stays, nothing else happens. -/
theorem C08_poll_gate_paused (cfg : Cfg) (p : Proc) (status : Status) (t : Timer) (r : Rec) (env : Env) (st : OpSt)
    (hp : r.runState = 3) (hst : r.status = status) : pollGate cfg p status t r env st = (.ok (), st) := by
  have h1 : ¬ Gen.G.pollCancel r.status status r.runState = true := by
    rw [pollCancel_iff, hp]
    exact not_or.mpr ⟨not_not_intro hst, by decide⟩
  have h2 : Gen.G.pollSkipStopped r.runState = true := by rw [hp]; decide
  unfold pollGate
  rw [if_neg h1, if_pos h2]
  rfl

/-- Resume: on a Paused record the controller writes Running at the SAME status with the SAME object and the next
version, and that write is announced on the status topic of that status — so the step (or timeout insertion) of that
status runs again on the object as it was when paused. -/
theorem resume_reannounces (cfg : Cfg) (mem : Rec) (env : Env) (st : OpSt)
    (ha : RS.allowed mem.runState (RS.target .resume) = true) (hl : CallLive env st) :
    let w : Rec := { mem with runState := 2, reason := 0, version := mem.version + 1 }
    ((ctlUpdateMem cfg mem .resume) env st).2.sys = st.sys.write cfg w ∧
    w.status = mem.status ∧ w.obj = mem.obj ∧
    (Routing.route w).topicKind = 0 ∧ (Routing.route w).topicStatus = mem.status ∧ (Routing.route w).version = mem.version + 1 := by
  intro w
  refine ⟨?_, rfl, rfl, rfl, rfl, rfl⟩
  rw [ctlUpdateMem_allowed cfg mem .resume env st ha]
  exact (store_run_ok cfg w env st hl).2.1

theorem C08_resume_reannounces (cfg : Cfg) (mem : Rec) (st : OpSt) (hp : mem.runState = 3) (hc : st.cancelled = false) :
    let w : Rec := { mem with runState := 2, reason := 0, version := mem.version + 1 }
    ((ctlUpdateMem cfg mem .resume) {} st).2.sys = st.sys.write cfg w ∧
    w.status = mem.status ∧ w.obj = mem.obj ∧
    (Routing.route w).topicKind = 0 ∧ (Routing.route w).topicStatus = mem.status ∧ (Routing.route w).version = mem.version + 1 :=
  resume_reannounces cfg mem {} st (by rw [hp]; decide) ⟨hc, rfl⟩

/-- A refused request leaves the CONTROLLER'S OWN record exactly as it was: the next request made through the same controller
(handle) is judged from the state the run was really in — in particular Pause, refused on a cancelled run, cannot make a
following Resume look legal. For every environment; nothing is written, no adapter is called. -/
theorem C08_refused_request_leaves_handle (cfg : Cfg) (mem : Rec) (op : RS.CtlOp) (env : Env) (st : OpSt)
    (h : RS.allowed mem.runState (RS.target op) = false) :
    (ctlUpdateMem cfg mem op env st).1 = .ok (mem, some (.err (errInvalidRunState mem.runState (RS.target op)))) ∧
    (ctlUpdateMem cfg mem op env st).2 = st := by
  rw [C03.C03_ctl_rejects_without_write cfg mem op env st h]
  exact ⟨rfl, rfl⟩

/-- … so on a cancelled, data-deleted or deletion-requested run every Pause / Resume / Cancel made through one controller, in
any order and any number, is refused: the handle never leaves the stopped state it started in. -/
theorem finished_handle_stays (mem : Rec) (op : RS.CtlOp) (hs : RS.FinishedSpec mem.runState)
    (hop : op = .pause ∨ op = .resume ∨ op = .cancel) : RS.allowed mem.runState (RS.target op) = false := by
  rcases hs with h | h | h | h <;> rcases hop with rfl | rfl | rfl <;> rw [h] <;> decide +kernel

theorem C08_stopped_handle_stays (mem : Rec) (op : RS.CtlOp) (hs : mem.runState = 4 ∨ mem.runState = 6 ∨ mem.runState = 7)
    (hop : op = .pause ∨ op = .resume ∨ op = .cancel) : RS.allowed mem.runState (RS.target op) = false :=
  finished_handle_stays mem op (hs.elim Or.inl (Or.inr ∘ Or.inr)) hop

/-- non-vacuity: pause at status 1 through a fresh controller, a redelivered pre-pause event does nothing, resume, the
step then runs once on the object it was paused with (7) and advances the run -/
example :
    let cfg : Cfg := { calls := [{ kind := .step, src := 1, dests := [2] }] }
    let s1 := runActs cfg {} [.trigger 0 0 7 {}, .step .outbox {}, .step (.step 1 1 1) {}, .ctl 0 .pause {},
      .step (.step 1 1 1) { outcomes := [.ret 2 99] }]
    let s2 := runActs cfg s1 [.ctl 0 .resume {}, .step .outbox {}, .step .outbox {}, .step (.step 1 1 1) { outcomes := [.ret 2 8] }]
    (s1.cur 0).map (fun r => (r.runState, r.status, r.obj)) = some (3, 1, 7) ∧
    (s2.cur 0).map (fun r => (r.runState, r.status, r.obj)) = some (5, 2, 8) := by
  decide +kernel

end WorkflowModel.C08
