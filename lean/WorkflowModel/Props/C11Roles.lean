import WorkflowModel.Model.Adapters.RefRoles
/-! # C11 (role scheduler clause) — two holders of one role never overlap

Invariant of the contract `RefRoles` in every reachable state, for every sequence of requests, grants (legal or refused)
and cancellations. The bundled `memrolescheduler` is tied to the contract by the suite `mem-roles`: real `Await` calls from
concurrent goroutines; every observed grant must be a legal `grant` of the model at that moment. -/
namespace WorkflowModel.C11Roles
open WorkflowModel.RefRoles

/-- no two live holders share a role -/
def Exclusive (s : RState) : Prop := s.holders.Pairwise (fun a b => a.2 ≠ b.2)

theorem exclusive_init : Exclusive {} := List.Pairwise.nil

theorem exclusive_step (s : RState) (op : Op) (h : Exclusive s) : Exclusive (s.apply op) := by
  cases op with
  | request id r => exact h
  | finish id => exact List.Pairwise.sublist List.filter_sublist h
  | grant id =>
    show Exclusive (s.grant id).1
    unfold RState.grant
    split
    · exact h
    · rename_i w _
      split
      · exact h
      · rename_i hh
        refine List.pairwise_append.mpr ⟨h, List.pairwise_singleton _ _, fun a ha b hb e => hh ?_⟩
        cases List.mem_singleton.mp hb
        exact List.any_eq_true.mpr ⟨a, ha, beq_iff_eq.mpr e⟩

/-- In every reachable state of the scheduler contract no role has two live holders. -/
theorem C11_roles_exclusive (ops : List Op) : Exclusive (ops.foldl RState.apply {}) :=
  List.foldlRecOn ops RState.apply exclusive_init fun s h op _ => exclusive_step s op h

/-- a grant while the role is held is refused and changes nothing -/
theorem C11_grant_refused_while_held (s : RState) (id : Nat) (w : Nat × Nat) (hw : s.waiting.find? (·.1 == id) = some w)
    (hh : s.held w.2 = true) : s.grant id = (s, false) := by
  simp [RState.grant, hw, hh]

/-- among holders that pairwise differ in their role, the role determines the holder -/
theorem holder_unique {l : List (Nat × Nat)} (h : l.Pairwise (fun a b => a.2 ≠ b.2)) {x y : Nat × Nat}
    (hx : x ∈ l) (hy : y ∈ l) (e : x.2 = y.2) : x = y :=
  List.Pairwise.forall_of_forall_of_flip (R := fun a b => a.2 = b.2 → a = b) (fun _ _ _ => rfl)
    (h.imp fun ne e => absurd e ne) (h.imp fun ne e => absurd e.symm ne) hx hy e

/-- once the holder's context is cancelled the role is free again (given it was the only holder: Exclusive) -/
theorem C11_finish_frees (s : RState) (id role : Nat) (h : Exclusive s) (hm : (id, role) ∈ s.holders) :
    (s.finish id).held role = false := by
  simp only [RState.held, RState.finish, List.any_eq_false, List.mem_filter, beq_iff_eq, and_imp]
  intro x hx hne hr
  cases holder_unique h hx hm hr
  simp at hne

example : (((({} : RState).request 1 7).request 2 7 |>.grant 1).1.grant 2).2 = false := by decide
example : (((({} : RState).request 1 7).request 2 7 |>.grant 1).1.finish 1 |>.grant 2).2 = true := by decide

end WorkflowModel.C11Roles
