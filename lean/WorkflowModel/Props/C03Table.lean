import WorkflowModel.Model.RunState
import WorkflowModel.Props.Tie
/-! # C03 (table part) — the controller's transition table is inside the documented lifecycle

`RS.allowed` reads the **generated** table (`Gen.runStateTransitions`, from runstate.go). `RS.Lifecycle` is the
machine written out from the property text. Adding an edge such as Cancelled → Running to the Go table makes
`C03_table_sound` fail in the kernel. Two write paths do not go through the table: the run states they write - Running /
Completed over Initiated or Running (the updater), DataDeleted over RequestedDataDeleted or DataDeleted (the delete consumer) -
are lifecycle edges too (`C03_updater_edge`, `C03_delete_edge`: facts about `RS.Lifecycle` alone; that these paths write
nothing else is `Engine.Edge.lifecycle`, Lemmas/Hist.lean). -/
namespace WorkflowModel.C03
open WorkflowModel RS

theorem allowed_iff_mem {a b : Int} : allowed a b = true ↔ (a, b) ∈ Gen.runStateTransitions :=
  List.contains_iff_mem

/-- the finite facts about the generated table, checked row by row: every entry is a lifecycle edge, starts at one
of the seven run states, and leads to RequestedDataDeleted only from Cancelled, Completed or DataDeleted -/
theorem table_entries_sound : ∀ p ∈ Gen.runStateTransitions,
    Lifecycle p.1 p.2 ∧ (1 ≤ p.1 ∧ p.1 ≤ 7) ∧ (p.2 = 7 → p.1 = 4 ∨ p.1 = 5 ∨ p.1 = 6) := by decide

/-- lifted to all integers: whatever the controller accepts is a lifecycle edge -/
theorem C03_table_sound (a b : Int) (h : allowed a b = true) : Lifecycle a b :=
  (table_entries_sound (a, b) (allowed_iff_mem.mp h)).1

/-- A set of run states without Initiated, Running and Paused that holds DataDeleted and RequestedDataDeleted is
closed under the lifecycle: every edge from the other states ends in one of those two. -/
theorem lifecycle_closed (P : Int → Prop) (hn : ¬P 1 ∧ ¬P 2 ∧ ¬P 3) (hp : P 6 ∧ P 7) (a b : Int)
    (h : Lifecycle a b) (ha : P a) : P b := by
  rcases h with rfl | ⟨rfl, _⟩ | ⟨rfl, _⟩ | ⟨rfl, _⟩ | ⟨_, rfl⟩ | ⟨_, rfl⟩ | ⟨_, rfl⟩ | ⟨_, rfl⟩
  · exact ha
  · exact absurd ha hn.1
  · exact absurd ha hn.2.1
  · exact absurd ha hn.2.2
  · exact hp.2
  · exact hp.2
  · exact hp.1
  · exact hp.2

/-- the lifecycle never leaves the finished states -/
theorem C03_finished_closed (a b : Int) (h : Lifecycle a b) (hf : FinishedSpec a) : FinishedSpec b :=
  lifecycle_closed FinishedSpec (by decide) (by decide) a b h hf

/-- after RequestedDataDeleted only RequestedDataDeleted / DataDeleted are reachable -/
theorem C03_after_rdd (a b : Int) (h : Lifecycle a b) (ha : a = 6 ∨ a = 7) : b = 6 ∨ b = 7 :=
  lifecycle_closed (fun x => x = 6 ∨ x = 7) (by decide) (by decide) a b h ha

/-- the code's `Finished()` is exactly the finished set of the property text — all integers -/
theorem C03_finished_agrees (a : Int) : Gen.finished a = true ↔ FinishedSpec a :=
  List.contains_iff_mem.trans ((by decide : Gen.finishedCases.Perm [4, 5, 6, 7]).mem_iff.trans (by simp [FinishedSpec]))

/-- the code's `Stopped()` = Paused, Cancelled, RequestedDataDeleted, DataDeleted — all integers -/
theorem C03_stopped_agrees (a : Int) : Gen.stopped a = true ↔ (a = 3 ∨ a = 4 ∨ a = 6 ∨ a = 7) :=
  List.contains_iff_mem.trans ((by decide : Gen.stoppedCases.Perm [3, 4, 6, 7]).mem_iff.trans (by simp))

/-- `Valid()` = 1..7 -/
theorem C03_valid_agrees (a : Int) : Gen.valid a = true ↔ (1 ≤ a ∧ a ≤ 7) := by
  unfold Gen.valid Gen.RunStateUnknown Gen.runStateSentinel
  rw [Bool.and_eq_true, decide_eq_true_iff, decide_eq_true_iff]
  omega

theorem C03_ctl_targets : target .pause = 3 ∧ target .resume = 2 ∧ target .cancel = 4 ∧ target .deleteData = 7 := by
  decide

/-- the rejection guard of the controller is the table lookup (source text tripwire, T1) -/
theorem C03_ctl_guard_src :
    Gen.ctlRejectGuardSrc = "!ok || !valid[rs]" ∧
    Gen.ctlLookupSrc = "valid, ok := runStateTransitions[rsc.record.RunState]" := ⟨rfl, rfl⟩

/-- DeleteData is accepted only from Completed, Cancelled or DataDeleted (C15) -/
theorem C03_delete_accept_iff (a : Int) : allowed a (target .deleteData) = true ↔ (a = 4 ∨ a = 5 ∨ a = 6) := by
  constructor
  · exact fun h => (table_entries_sound (a, 7) (allowed_iff_mem.mp h)).2.2 rfl
  · rintro (rfl | rfl | rfl) <;> rfl

theorem out_of_range_rejected (a b : Int) (h : a ≤ 0 ∨ 8 ≤ a) : allowed a b = false :=
  Bool.eq_false_iff.mpr fun hx => by
    have := (table_entries_sound _ (allowed_iff_mem.mp hx)).2.1
    omega

/-- no operation is accepted from an out-of-range state or from Unknown -/
theorem C03_out_of_range_rejected (a : Int) (op : CtlOp) (h : a ≤ 0 ∨ 8 ≤ a) : allowed a (target op) = false :=
  out_of_range_rejected a (target op) h

/-- a finished run is never taken back to Initiated, Running or Paused by the controller -/
theorem ctl_finished_stays (a b : Int) (hf : FinishedSpec a) (h : allowed a b = true) : FinishedSpec b :=
  C03_finished_closed _ _ (C03_table_sound _ _ h) hf

theorem C03_ctl_finished_stays (a : Int) (op : CtlOp) (hf : FinishedSpec a) (h : allowed a (target op) = true) :
    FinishedSpec (target op) := ctl_finished_stays a (target op) hf h

/-- From Initiated or Running (the only states in which a step, callback or timeout function is run — C08) an updater
write is a lifecycle edge. -/
theorem C03_updater_edge (a : Int) (term : Bool) (h : a = 1 ∨ a = 2) : Lifecycle a (if term then 5 else 2) := by
  rcases h with rfl | rfl <;> cases term <;> decide

/-- The delete consumer writes DataDeleted; from RequestedDataDeleted or DataDeleted (the only states reachable once the
delete request was written — `C03_after_rdd`) that is a lifecycle edge. -/
theorem C03_delete_edge (a : Int) (h : a = 6 ∨ a = 7) : Lifecycle a 6 := by
  rcases h with rfl | rfl <;> decide

/-- T2: the controller performs exactly one store, through `updateRecord` (version + 1), after the guard -/
theorem C03_tie_order : Tie.rscUpdate = true ∧ Tie.updateRecord = true := ⟨beq_self_eq_true _, beq_self_eq_true _⟩

/-- non-vacuity: the table does accept something from every in-range state -/
example : allowed 1 3 = true ∧ allowed 2 4 = true ∧ allowed 3 2 = true ∧ allowed 4 7 = true ∧ allowed 5 7 = true ∧
    allowed 6 7 = true ∧ allowed 7 6 = true := by decide

end WorkflowModel.C03
