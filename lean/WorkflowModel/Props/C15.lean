import WorkflowModel.Lemmas.Stable
import WorkflowModel.Props.C03Table
import WorkflowModel.Props.Tie
/-! # C15 — Data deletion scrubs exactly the requested finished run

Request = controller transition to RequestedDataDeleted (accepted exactly from Completed, Cancelled, DataDeleted:
`C03_delete_accept_iff`), announced on the delete topic (C06). Execution = `deleteHandle` (model of `runDelete`):
object replaced by the custom delete function's result (model: `scrub`, idempotent) or the default marker (-7777777 in the
model, `Engine.deleteObj`; it does not decode, `Engine.decodable`). Over every reachable state:
`History.C15_deleted_only_after_request`, `C15_ack_means_deleted`, `C15_no_stranded_request` (Props/History.lean). -/
namespace WorkflowModel.C15
open WorkflowModel Engine

/-- DeleteData is accepted only for Completed, Cancelled or already DataDeleted runs -/
theorem C15_accept_iff (a : Int) : RS.allowed a (RS.target .deleteData) = true ↔ (a = 4 ∨ a = 5 ∨ a = 6) :=
  C03.C03_delete_accept_iff a

/-- the record the delete consumer writes over `record` -/
def deletedRec (cfg : Cfg) (record : Rec) : Rec :=
  { record with obj := (if cfg.customDelete then scrub record.obj else -7777777), runState := 6, version := record.version + 1 }

/-- the replacement object is computed without touching the system; the computation fails, or it produces the custom delete of
the stored object, or the marker -/
theorem C15_delete_obj (cfg : Cfg) (record : Rec) (env : Env) (st : OpSt) :
    (deleteObj cfg record env st).2.sys = st.sys ∧
    ((deleteObj cfg record env st).1 = .ok (if cfg.customDelete then scrub record.obj else -7777777) ∨
      ∃ a, (deleteObj cfg record env st).1 = .error a) := by
  refine ⟨Pres.deleteObj (I := (· = st.sys)) record env st rfl, ?_⟩
  unfold deleteObj
  split
  · unfold customDeleteFn
    split
    · exact Or.inr ⟨_, rfl⟩
    · dsimp only [bind_run, nextOutcome, emit]
      generalize env.outcomes[st.outI]?.getD Outcome.exhausted = out
      -- the function's answer: an error, an error while the role is lost, none left; anything else is success
      split
      · exact Or.inr ⟨_, rfl⟩
      · exact Or.inr ⟨_, rfl⟩
      · exact Or.inr ⟨_, rfl⟩
      · exact Or.inl rfl
  · exact Or.inl rfl

/-- **The delete consumer in every environment**, on a read that answers `record`: the read fails and nothing has happened; or the
delete function runs on `record`, without touching the system, and unless it fails the handler ends with the store of the scrubbed
record. -/
theorem deleteHandle_run (cfg : Cfg) (e : Event) (env : Env) (st : OpSt) (record : Rec)
    (hread : (lookupRes st.sys e.runId st.stale).2 = some record) :
    (∃ a st', deleteHandle cfg e env st = (.error a, st') ∧ st'.sys = st.sys ∧ ¬ CallLive env st) ∨
    (∃ st' r st2, st'.cancelled = false ∧ st'.outI = st.outI ∧ deleteObj cfg record env st' = (r, st2) ∧ st2.sys = st.sys ∧
      deleteHandle cfg e env st = match r with
        | .ok _ => store cfg (deletedRec cfg record) env st2
        | .error a => (.error a, st2)) := by
  unfold deleteHandle
  rcases lookup_bind e.runId _ env st with ⟨a, st', h, hsys, _, _, hno⟩ | ⟨st', h, hsys, hout, _, hc, _⟩ <;> rw [h]
  · exact Or.inl ⟨a, st', rfl, hsys, hno⟩
  · obtain ⟨hd, ho⟩ := C15_delete_obj cfg record env st'
    rw [hread]
    dsimp only
    rw [bind_run]
    rcases hdo : deleteObj cfg record env st' with ⟨r, st2⟩
    rw [hdo] at hd ho
    refine Or.inr ⟨st', r, st2, hc, hout, hdo, hd.trans hsys, ?_⟩
    rcases r with a | o
    · rfl
    · obtain ho | ⟨_, ho⟩ := ho <;> cases ho
      rfl

/-- The delete consumer writes — if anything — exactly the scrubbed record over the one it read: DataDeleted, same status,
identifiers, creation time, next version; object = custom delete of the stored object, or the marker. No other run is
touched (a write only adds to the history of `record.runId`). For every fault plan and delete-function outcome. -/
theorem C15_scrub (cfg : Cfg) (e : Event) (env : Env) (st : OpSt) (record : Rec)
    (hread : (lookupRes st.sys e.runId st.stale).2 = some record) :
    (deleteHandle cfg e env st).2.sys = st.sys ∨ (deleteHandle cfg e env st).2.sys = st.sys.write cfg (deletedRec cfg record) := by
  rcases deleteHandle_run cfg e env st record hread with ⟨a, st', h, hsys, _⟩ | ⟨st', r, st2, _, _, _, hsys, h⟩ <;> rw [h]
  · exact Or.inl hsys
  · cases r
    · exact Or.inl hsys
    · exact hsys ▸ (store_run_any cfg (deletedRec cfg record) env st2).1

theorem C15_scrub_fields (cfg : Cfg) (record : Rec) :
    (deletedRec cfg record).runState = 6 ∧ (deletedRec cfg record).status = record.status ∧
    (deletedRec cfg record).runId = record.runId ∧ (deletedRec cfg record).fid = record.fid ∧
    (deletedRec cfg record).createdAt = record.createdAt ∧ (deletedRec cfg record).version = record.version + 1 :=
  ⟨rfl, rfl, rfl, rfl, rfl, rfl⟩

theorem scrub_idem (o : Int) : scrub (scrub o) = scrub o := by
  unfold scrub
  by_cases h : o > -500000
  · have : ¬ (-1000000 - o > -500000) := by omega
    simp [h, this]
  · simp [h]

/-- A redelivered request leaves the run DataDeleted and scrubbed: scrubbing is idempotent, the marker stays the marker. -/
theorem C15_redelivery_idempotent (cfg : Cfg) (record : Rec) :
    (deletedRec cfg (deletedRec cfg record)).obj = (deletedRec cfg record).obj ∧ (deletedRec cfg (deletedRec cfg record)).runState = 6 := by
  unfold deletedRec
  by_cases h : cfg.customDelete = true
  · simp only [h, if_true, and_true]
    exact scrub_idem record.obj
  · simp [h]

/-- If the custom delete function fails on the outcome this delivery hands it (the read consumes none, so it runs at the outcome
index the delivery started with), nothing is written and the handler fails (no ack, retried): the run stays
RequestedDataDeleted with its object intact — for every fault plan. -/
theorem failure_keeps (cfg : Cfg) (e : Event) (env : Env) (st : OpSt) (record : Rec)
    (hread : (lookupRes st.sys e.runId st.stale).2 = some record)
    (hfail : ∀ st', st'.outI = st.outI → ∃ a, (deleteObj cfg record env st').1 = .error a) :
    (deleteHandle cfg e env st).2.sys = st.sys ∧ ∃ a, (deleteHandle cfg e env st).1 = .error a := by
  rcases deleteHandle_run cfg e env st record hread with ⟨a, st', h, hsys, _⟩ | ⟨st', r, st2, _, hout, hdo, hsys, h⟩ <;> rw [h]
  · exact ⟨hsys, a, rfl⟩
  · obtain ⟨a, ha⟩ := hfail st' hout
    rw [hdo] at ha
    cases ha
    exact ⟨hsys, a, rfl⟩

/-- … in particular if it fails whatever outcome it is handed -/
theorem C15_failure_keeps (cfg : Cfg) (e : Event) (env : Env) (st : OpSt) (record : Rec)
    (hread : (lookupRes st.sys e.runId st.stale).2 = some record)
    (hfail : ∀ st', ∃ a, (deleteObj cfg record env st').1 = .error a) :
    (deleteHandle cfg e env st).2.sys = st.sys ∧ ∃ a, (deleteHandle cfg e env st).1 = .error a :=
  failure_keeps cfg e env st record hread fun st' _ => hfail st'

/-- … and a delete function that answers with an error does make `deleteObj` fail (the hypothesis of `failure_keeps`, at every
state with that outcome index) -/
theorem delete_fn_error (cfg : Cfg) (record : Rec) (k : Int) (env : Env) (st : OpSt)
    (hcd : cfg.customDelete = true) (hdec : decodable record.obj = true) (hout : env.outcomes[st.outI]? = some (.err k)) :
    (deleteObj cfg record env st).1 = .error (.err k) := by
  unfold deleteObj customDeleteFn
  rw [if_pos hcd, hdec, if_neg (by decide), bind_run, nextOutcome]
  dsimp only
  rw [hout]
  rfl

theorem C15_delete_fn_error (cfg : Cfg) (record : Rec) (k : Int) (outs : List Outcome) (st : OpSt)
    (hcd : cfg.customDelete = true) (hdec : decodable record.obj = true) (hout : outs[st.outI]? = some (.err k)) :
    (deleteObj cfg record { outcomes := outs } st).1 = .error (.err k) :=
  delete_fn_error cfg record k { outcomes := outs } st hcd hdec hout

/-- A REDELIVERED REQUEST SUCCEEDS. With the default delete (or any delete function that succeeds) and nothing injected,
the delete consumer's handler returns normally — so the event is acknowledged — WHATEVER run state the record is in when it is
read: in particular for a run that is already DataDeleted (a lost acknowledgement, a crash between Store and Ack, a duplicate
event). It writes the scrubbed record once more. (Seeded change C15_m3 made this handler fail on DataDeleted runs.) -/
theorem redelivered_request_succeeds (cfg : Cfg) (e : Event) (env : Env) (st : OpSt) (record : Rec)
    (hcd : cfg.customDelete = false) (hc : st.cancelled = false) (hf : ∀ n, env.faults.lookup n = none)
    (hread : (lookupRes st.sys e.runId st.stale).2 = some record) :
    (deleteHandle cfg e env st).1 = .ok () ∧ (deleteHandle cfg e env st).2.sys = st.sys.write cfg (deletedRec cfg record) := by
  rcases deleteHandle_run cfg e env st record hread with ⟨_, _, _, _, hno⟩ | ⟨st', r, st2, hc', _, hdo, hsys, h⟩
  · exact absurd ⟨hc, hf _⟩ hno
  · -- the default delete is no computation at all
    have : deleteObj cfg record env st' = (.ok (-7777777), st') := by unfold deleteObj; rw [hcd]; rfl
    cases this.symm.trans hdo
    have hs := store_run_ok cfg (deletedRec cfg record) env st' ⟨hc', hf _⟩
    rw [h, ← hsys]
    exact ⟨hs.1, hs.2.1⟩

theorem C15_redelivered_request_succeeds (cfg : Cfg) (e : Event) (st : OpSt) (record : Rec)
    (hcd : cfg.customDelete = false) (hc : st.cancelled = false)
    (hread : (lookupRes st.sys e.runId st.stale).2 = some record) :
    (deleteHandle cfg e {} st).1 = .ok () ∧ (deleteHandle cfg e {} st).2.sys = st.sys.write cfg (deletedRec cfg record) :=
  redelivered_request_succeeds cfg e {} st record hcd hc (fun _ => rfl) hread

theorem C15_tie_order : Tie.runDelete = true ∧ Tie.rscUpdate = true :=
  ⟨beq_self_eq_true _, beq_self_eq_true _⟩

/-- non-vacuity: cancel, request deletion, the delete consumer scrubs with the default marker; the request from a Running
run is refused -/
example :
    let cfg : Cfg := { calls := [{ kind := .step, src := 1, dests := [2] }] }
    let s := runActs cfg {} [.trigger 0 0 7 {}, .ctl 0 .deleteData {}, .ctl 0 .pause {}, .ctl 0 .cancel {}, .ctl 0 .deleteData {},
      .step .outbox {}, .step .delete {}, .step .delete {}]
    (s.cur 0).map (fun r => (r.runState, r.status, r.obj, r.version)) = some (6, 1, -7777777, 5) := by
  decide +kernel

end WorkflowModel.C15
