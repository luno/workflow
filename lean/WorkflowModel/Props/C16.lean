import WorkflowModel.Lemmas.Relay
import WorkflowModel.Props.C15
import WorkflowModel.Props.C13
/-! # C16 — Record identity, versioning and object hand-over between steps are exact

What each write path puts into the record it stores, relative to the record it is based on; and when the object a user
function leaves behind is persisted. The whole-history statements (`History.C16_versions`: version 1, 2, 3 …;
`History.C16_identity_and_object`) hold when every write is based on a CURRENT read; re-entrant functions, stale handles and
lagging reads break that (findings F20, F17, F16) and are reported by the harness's per-write monitors. -/
namespace WorkflowModel.C16
open WorkflowModel Engine

/-- Trigger: version 1, creation time = update time = now, description of the start status. -/
theorem C16_trigger_record (fid : Fid) (st : Status) (n : Obj) (now : Int) (rid : RunId) :
    let w : Rec := { triggerRec fid st n now rid with version := (triggerRec fid st n now rid).version + 1 }
    w.version = 1 ∧ w.createdAt = now ∧ w.updatedAt = now ∧ w.descr = w.status ∧ w.obj = n ∧ w.runState = 1 := by
  simp [triggerRec, Gen.RunStateInitiated]

/-- Updater: identity and creation time from the run, version + 1, update time now, status description of the NEW status
(since the repair of F13), the object the function left behind. -/
theorem C16_updater_record (cfg : Cfg) (next : Status) (run : Rec) (o : Obj) (now : Int) :
    let w : Rec := { updaterRec cfg next run o now with version := run.version + 1 }
    w.runId = run.runId ∧ w.fid = run.fid ∧ w.createdAt = run.createdAt ∧ w.version = run.version + 1 ∧
    w.updatedAt = now ∧ w.descr = w.status ∧ w.status = next ∧ w.obj = o := by
  simp [updaterRec]

/-- Controller: identity, creation time, status, object and description untouched; version + 1. -/
theorem C16_ctl_record (mem : Rec) (op : RS.CtlOp) :
    let w : Rec := { mem with runState := RS.target op, reason := ctlReason op, version := mem.version + 1 }
    w.runId = mem.runId ∧ w.fid = mem.fid ∧ w.createdAt = mem.createdAt ∧ w.version = mem.version + 1 ∧
    w.status = mem.status ∧ w.obj = mem.obj ∧ w.descr = mem.descr ∧ w.updatedAt = mem.updatedAt := by
  simp

/-- Delete consumer: identity, creation time, status untouched; version + 1 (object scrubbed: C15). -/
theorem C16_delete_record (cfg : Cfg) (record : Rec) :
    (C15.deletedRec cfg record).runId = record.runId ∧ (C15.deletedRec cfg record).fid = record.fid ∧
    (C15.deletedRec cfg record).createdAt = record.createdAt ∧ (C15.deletedRec cfg record).version = record.version + 1 ∧
    (C15.deletedRec cfg record).status = record.status ∧ (C15.deletedRec cfg record).descr = record.descr := by
  simp [C15.deletedRec]

/-- A store that stamps the update time (`cfg.stamp`) persists the record with the store's clock reading as its update
time, whatever the writer supplied. -/
theorem C16_stamped_update_time (s : Sys) (cfg : Cfg) (r : Rec) (h : cfg.stamp = true) :
    ∃ w, Written (s.write cfg r) w ∧ w.updatedAt = s.now ∧ w.version = r.version ∧ w.runId = r.runId := by
  refine ⟨{ r with updatedAt := s.now }, (written_write s cfg r _).mpr (Or.inr (by simp [Sys.stamped, h])), rfl, rfl, rfl⟩

/-- The object is persisted IFF the function returns a declared next status: a skip value (0, -1) persists nothing … -/
theorem C16_skip_persists_nothing (cfg : Cfg) (p : Proc) (pa : Int) (record : Rec) (res : FnRes) (mem : Rec)
    (env : Env) (st : OpSt) (hskip : res.next = 0 ∨ res.next = -1) :
    stepRun cfg p pa record (fun _ => pure (.ok res, mem)) env st = (.ok (), st) := by
  have : Gen.skipValues.contains res.next = true := by
    rcases hskip with h | h <;> simp [Gen.skipValues, h]
  unfold stepRun
  rw [bind_run]
  simp only [pure_run]
  rw [if_pos this]
  rfl

/-- … an error persists nothing when no error count is configured: the handler fails, nothing is written (with a count
configured the only possible write is the controller's Paused write, which stores the object of the record that was
read — `C16_ctl_record` — never the function's in-memory modifications) … -/
theorem C16_error_persists_nothing (cfg : Cfg) (p : Proc) (record mem : Rec) (err : Abort) (env : Env) (st : OpSt) :
    stepRun cfg p 0 record (fun _ => pure (.error err, mem)) env st = (.error err, st) := by
  unfold stepRun
  rw [bind_run]
  simp only [pure_run]
  rw [bind_run]
  unfold maybePause
  rw [bind_run, C13.C13_never_when_zero]
  rfl

/-- … an undeclared destination persists nothing (C02_undeclared_no_write), and a declared one persists exactly the
object the function left behind (`C16_updater_record`, `C03_updater_writes_only_that`). -/
theorem C16_advance_persists_object (cfg : Cfg) (next : Status) (run : Rec) (o : Obj) (now : Int) :
    (updaterRec cfg next run o now).obj = o := rfl

/-- The next function to run observes exactly the persisted object: a handler hands `viewRec record` — the record the
store returned, object untouched — to the function. -/
theorem C16_next_sees_persisted (record : Rec) : (viewRec record).obj = record.obj ∧ (viewRec record).version = record.version ∧
    (viewRec record).status = record.status := by simp [viewRec]

end WorkflowModel.C16
