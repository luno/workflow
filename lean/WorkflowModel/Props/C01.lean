import WorkflowModel.Props.C04
import WorkflowModel.Props.C05
import WorkflowModel.Props.C07
import WorkflowModel.Props.C11
/-! # C01 — Crash-tolerant progress: every run ends exactly as in a fault-free execution

The convergence statement itself ("after any faults and recovery every run ends as in the failure-free execution") is
decided by FAULT ENUMERATION on the implementation, co-simulated on the engine model (suite `sim-recovery`): it needs
determinism of the user functions and fairness of the schedule, which this model takes as parameters of an execution,
not as something to quantify a theorem over. What IS proved here, for every environment (fault plan, crash point, user
function outcome), are the four mechanisms the property rests on, over the same engine model:

1. nothing is left unpublished: every write is pending in the outbox or published, in every reachable state;
2. nothing is left unprocessed: a delivery whose handler fails moves no cursor, so the event is received again; a
   failed relay step keeps the entry;
3. each persisted effect is applied once: as soon as the effect of an announcement is persisted (the record is one
   version ahead), redelivering that announcement — any number of times, to any shard, under any fault plan, with any
   step function — writes nothing and invokes nothing (and is acknowledged: the handler returns normally,
   `C04_old_event_noop`);
4. processes never give up: a failing operation parks the process in back-off (or at the role gate) and no parking state
   is a dead end.

The statements over every reachable state - no run is stranded at a step (`C01_no_stranded_step`,
`C01_waiting_run_keeps_consumer_enabled`, `C01_tokOK`), an acknowledged delivery means the announcement was handled
(`C01_step_ack_means_handled`), no effect twice (`C01_no_effect_twice`) - are in Props/History.lean. -/
namespace WorkflowModel.C01
open WorkflowModel Engine

/-- 1. No run is left with an unpublished change — in EVERY reachable state, whatever failed or crashed on the way. -/
theorem C01_no_unpublished_change (cfg : Cfg) (as : List Act) :
    let s := runActs cfg {} as
    ∀ w, Written s w → (∃ o ∈ s.outbox, o.ev = Routing.route w) ∨ (∃ e ∈ s.log, core e = Routing.route w) :=
  (C05.C05_inv cfg as).1

/-- 2a. A delivery whose handler fails — its own error, an adapter error inside it, a crash — is not acknowledged: no cursor
moves and the consume loop fails, so the same event is received again (every consumer kind, every fault plan). -/
theorem C01_failed_delivery_redelivered (cfg : Cfg) (p : Proc) (i : Nat) (e : Event) (env : Env) (st : OpSt) (a : Abort)
    (hnf : filteredOut p i e = false) (hfail : (handle cfg p e env st).1 = .error a) :
    (deliver cfg p i e env st).2.sys.cursors = st.sys.cursors ∧ (deliver cfg p i e env st).1 = .error a :=
  C07.C07_failure_no_ack cfg p i e env st a hnf hfail

/-- 3. EXACTLY-ONCE PERSISTED EFFECT. Let `e` announce version `v` of a run and let the effect of handling it be persisted:
some record `r` of that run with a later version has been written. Then handling `e` again — redelivery after a lost
acknowledgement, after a crash between Store and Ack, after a cursor reset; on any shard; with ANY step function; under ANY
fault plan (current reads) — changes nothing at all and consumes no user-function outcome: the effect cannot be applied a
second time, however often the step function was or will be invoked. -/
theorem effect_not_reapplied (cfg : Cfg) (p : Proc) (status : Status) (pa : Int) (e : Event)
    (fn : Rec → M (Except Abort FnRes × Rec)) (s : Sys) (r : Rec) (env : Env) (st : OpSt)
    (hsys : st.sys = s.write cfg r) (hz : st.stale = 0)
    (hrun : r.runId = e.runId) (hle : r.runId ≤ s.runs.length) (hver : r.version > e.version) :
    (stepHandle cfg p status pa e fn env st).2.sys = st.sys ∧ (stepHandle cfg p status pa e fn env st).2.outI = st.outI := by
  -- the record the store holds for the run is `r`, possibly with the store's own update time
  obtain ⟨t, ht⟩ := stamped_eq s cfg r
  have hread : (lookupRes st.sys e.runId st.stale).2 = some { r with updatedAt := t } := by
    rw [hsys, hz, lookupRes_fresh, write_eq, ht, ← hrun]
    exact head_writeRuns (w := { r with updatedAt := t }) hle
  have := C04.C04_old_event_noop cfg p status pa e fn env st _ hread hver
  exact ⟨this.1, this.2.1⟩

/-- … stated for a write to a run that exists, from a fresh operation state; `effect_not_reapplied` also covers the write that
creates the run and any operation state over the written system -/
theorem C01_effect_not_reapplied (cfg : Cfg) (p : Proc) (status : Status) (pa : Int) (e : Event)
    (fn : Rec → M (Except Abort FnRes × Rec)) (s : Sys) (r : Rec) (env : Env) (callN outI : Nat)
    (hrun : r.runId = e.runId) (hlen : r.runId < s.runs.length) (hver : r.version > e.version) :
    let st : OpSt := { sys := s.write cfg r, stale := 0, callN := callN, outI := outI }
    (stepHandle cfg p status pa e fn env st).2.sys = s.write cfg r ∧ (stepHandle cfg p status pa e fn env st).2.outI = outI :=
  effect_not_reapplied cfg p status pa e fn s r env _ rfl rfl hrun (Nat.le_of_lt hlen) hver

/-- 2b. A relay step that fails while sending or deleting keeps the outbox entry (it is sent again) -/
theorem C01_relay_failure_keeps_entry (o : OutE) (env : Env) (st : OpSt)
    (hlog : ((relayEntry o) env st).2.sys.log = st.sys.log) : ((relayEntry o) env st).2.sys.outbox = st.sys.outbox :=
  C05.C05_failure_keeps_entry o env st hlog

/-- 4. A failing operation never ends its process, and no parking state is a dead end. -/
theorem C01_process_retries (cfg : Cfg) (p : Proc) (env : Env) (st : OpSt) (a : Abort)
    (hfail : (procBody cfg p (st.sys.pstate p) env st).1 = .error a) :
    (∃ u, ((procOp cfg p) env st).2.sys.pstate p = .backoff u) ∨ ((procOp cfg p) env st).2.sys.pstate p = .needRole :=
  C11.C11_failure_retries cfg p env st a hfail

theorem C01_never_dead (s : Sys) (p : Proc) :
    ∃ d : Int, 0 ≤ d ∧ ((s.tick d).enabled p = true ∨ (s.pstate p = .atRecv ∧ (s.nextIndex p).isNone)) :=
  C11.C11_never_dead s p

/-- T2: the call orders the four mechanisms depend on -/
theorem C01_tie_order : Tie.purgeOutbox = true ∧ Tie.consume = true ∧ Tie.stepConsumer = true ∧ Tie.updater = true ∧
    Tie.runOnce = true ∧ Tie.memStore = true :=
  ⟨beq_self_eq_true _, beq_self_eq_true _, beq_self_eq_true _, beq_self_eq_true _, beq_self_eq_true _, beq_self_eq_true _⟩

/-- non-vacuity of 3: a step advanced run 0 to version 2; its announcement of version 1 is redelivered after a cursor
rewind with a step function that would now answer differently: nothing changes -/
example :
    let cfg : Cfg := { calls := [{ kind := .step, src := 1, dests := [2] }, { kind := .step, src := 2, dests := [3] }] }
    let s := runActs cfg {} [.trigger 0 0 7 {}, .step .outbox {}, .step (.step 1 1 1) {}, .step (.step 1 1 1) { outcomes := [.ret 2 8] }]
    let s' := runActs cfg s [.rewind (.step 1 1 1) 0, .step (.step 1 1 1) { outcomes := [.ret 2 9] }]
    (s.cur 0).map (·.version) = some 2 ∧ s'.runs.map (·.hist.length) = s.runs.map (·.hist.length) ∧ s'.outbox.length = s.outbox.length := by
  decide +kernel

end WorkflowModel.C01
