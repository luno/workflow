import WorkflowModel.Model.Adapters.RefStream
import WorkflowModel.Generated.Guards
/-! # C19 — In-memory streamer: ordered topics, per-consumer cursors, redelivery until ack

Laws of the contract `RefStream`; the bundled `memstreamer` (and its connector) is tied to the contract by the
differential suite `mem-streamer` (sends, receiver creation with/without StreamFromLatest, receives with a deadline for
"would block", acknowledgements, reconnects without acknowledging, several topics and names, empty and non-empty logs). -/
namespace WorkflowModel.C19
open WorkflowModel.RefStream

theorem nextFrom_spec (log : List (Nat × Nat)) (topic i fuel : Nat) (j : Nat) (h : nextFrom log topic i fuel = some j) :
    i ≤ j ∧ (∃ e, log[j]? = some e ∧ e.1 = topic) ∧ ∀ k, i ≤ k → k < j → ∀ e, log[k]? = some e → e.1 ≠ topic := by
  fun_induction nextFrom log topic i fuel with
  | case1 => cases h
  | case2 => cases h
  | case3 i fuel e he ht =>
    cases h
    exact ⟨Nat.le_refl _, ⟨e, he, by simpa using ht⟩, fun k h1 h2 => by omega⟩
  | case4 i fuel e he ht ih =>
    obtain ⟨h1, h2, h3⟩ := ih h
    refine ⟨by omega, h2, fun k hk1 hk2 e' he' => ?_⟩
    rcases Nat.eq_or_lt_of_le hk1 with rfl | hlt
    · rw [he] at he'; cases he'; simpa using ht
    · exact h3 k hlt hk2 e' he'

/-- Liveness of the scan: an event of the topic at or after `i`, within the fuel, is found (or an earlier one is). -/
theorem nextFrom_complete (log : List (Nat × Nat)) (topic i fuel k : Nat) (e : Nat × Nat)
    (hk : i ≤ k) (hf : k < i + fuel) (he : log[k]? = some e) (ht : e.1 = topic) : (nextFrom log topic i fuel).isSome := by
  fun_induction nextFrom log topic i fuel with
  | case1 => omega
  | case2 i fuel hi =>
    rw [List.getElem?_eq_none (Nat.le_trans (List.getElem?_eq_none_iff.mp hi) hk)] at he
    cases he
  | case3 => rfl
  | case4 i fuel e' he' hne ih =>
    rcases Nat.eq_or_lt_of_le hk with rfl | hlt
    · rw [he] at he'; cases he'; exact absurd (by simpa using ht) hne
    · exact ih hlt (by omega)

theorem nextFrom_hit {log : List (Nat × Nat)} {topic i payload : Nat} (h : log[i]? = some (topic, payload)) (fuel : Nat) :
    nextFrom log topic i (fuel + 1) = some i := by
  simp [nextFrom, h]

theorem position_setPos (l : List (Nat × Nat)) (k v : Nat) : (setPos l k v).lookup k = some v :=
  List.lookup_cons_self

theorem lookup_filter_ne (l : List (Nat × Nat)) (k k' : Nat) (h : k' ≠ k) :
    (l.filter (fun p => p.1 != k)).lookup k' = l.lookup k' := by
  induction l with
  | nil => rfl
  | cons c cs ih =>
    obtain ⟨a, b⟩ := c
    rw [List.filter_cons]
    split
    · rw [List.lookup_cons, List.lookup_cons, ih]
    · rename_i ha
      have ha : a = k := by simpa using ha
      rw [List.lookup_cons, ih, ha, beq_false_of_ne h]

theorem position_setPos_ne (l : List (Nat × Nat)) (k k' v : Nat) (h : k' ≠ k) : (setPos l k v).lookup k' = l.lookup k' := by
  rw [setPos, List.lookup_cons, beq_false_of_ne h]
  exact lookup_filter_ne l k k' h

theorem start_of_stored {s : Stream} {name p : Nat} (h : s.position name = some p) : s.start name = p := by
  simp [Stream.start, h]

theorem start_of_floor {s : Stream} {name f : Nat} (hp : s.position name = none) (hf : s.floor.lookup name = some f) :
    s.start name = f := by
  simp [Stream.start, hp, hf]

theorem start_setPos (s : Stream) (name p : Nat) : ({ s with pos := setPos s.pos name p } : Stream).start name = p :=
  start_of_stored (position_setPos s.pos name p)

theorem start_materialise (s : Stream) (name : Nat) : (s.materialise name).start name = s.start name := by
  unfold Stream.materialise
  split
  · rename_i f hp hf
    rw [start_setPos, start_of_floor hp hf]
  · rfl

theorem start_moveTo (s : Stream) (name p : Nat) : (s.moveTo name p).start name = p := by
  unfold Stream.moveTo
  split
  · rename_i h; rw [start_materialise]; exact h.symm
  · exact start_setPos s name p

theorem log_moveTo (s : Stream) (name p : Nat) : (s.moveTo name p).log = s.log := by
  unfold Stream.moveTo Stream.materialise; split <;> (try split) <;> rfl

theorem other_moveTo (s : Stream) (name other p : Nat) (h : other ≠ name) :
    (s.moveTo name p).position other = s.position other ∧ (s.moveTo name p).floor = s.floor := by
  unfold Stream.moveTo Stream.materialise
  split
  · split
    · exact ⟨position_setPos_ne _ _ _ _ h, rfl⟩
    · exact ⟨rfl, rfl⟩
  · exact ⟨position_setPos_ne _ _ _ _ h, rfl⟩

theorem recv_fst (s : Stream) (name topic : Nat) :
    (s.recv name topic).1 = s.moveTo name ((s.scan name topic).getD (max (s.start name) s.log.length)) := by
  unfold Stream.recv
  cases s.scan name topic <;> rfl

theorem recv_eq_some {s : Stream} {name topic i payload : Nat} :
    (s.recv name topic).2 = some (i, payload) ↔ s.scan name topic = some i ∧ s.log[i]? = some (topic, payload) := by
  unfold Stream.recv
  cases hn : s.scan name topic with
  | none => simp
  | some j =>
    obtain ⟨_, ⟨e, he, rfl⟩, _⟩ := nextFrom_spec _ _ _ _ _ hn
    show s.log[j]?.map _ = _ ↔ _
    constructor
    · intro h
      rw [he] at h
      cases h
      exact ⟨rfl, he⟩
    · rintro ⟨hj, hl⟩
      cases hj
      rw [hl]
      rfl

/-- A delivery is an event of the receiver's topic, at or after the start position (the stored position, or the
StreamFromLatest floor when none is stored), and no event of that topic between the start and the delivery is skipped:
topic events are delivered in send order. -/
theorem C19_delivery_in_order (s : Stream) (name topic i payload : Nat) (h : (s.recv name topic).2 = some (i, payload)) :
    s.start name ≤ i ∧ s.log[i]? = some (topic, payload) ∧
    ∀ k, s.start name ≤ k → k < i → ∀ e, s.log[k]? = some e → e.1 ≠ topic := by
  obtain ⟨hs, hl⟩ := recv_eq_some.mp h
  obtain ⟨h1, _, h3⟩ := nextFrom_spec _ _ _ _ _ hs
  exact ⟨h1, hl, h3⟩

/-- if an event of the topic exists at or after the start position, `recv` delivers (does not block) -/
theorem C19_no_block_when_available (s : Stream) (name topic k : Nat) (e : Nat × Nat)
    (hk : s.start name ≤ k) (he : s.log[k]? = some e) (ht : e.1 = topic) : (s.recv name topic).2.isSome := by
  obtain ⟨hlt, _⟩ := List.getElem?_eq_some_iff.mp he
  obtain ⟨j, hj⟩ := Option.isSome_iff_exists.mp
    (nextFrom_complete s.log topic (s.start name) (s.log.length + 1) k e hk (by omega) he ht)
  obtain ⟨_, ⟨e', he', rfl⟩, _⟩ := nextFrom_spec _ _ _ _ _ hj
  rw [recv_eq_some.mpr ⟨hj, he'⟩]
  rfl

/-- Redelivery until acknowledged: a delivery leaves the start position AT the delivered event, so a receiver that
reconnects under the same name without acknowledging gets the same event again. -/
theorem C19_redelivered_until_ack (s : Stream) (name topic i payload : Nat) (h : (s.recv name topic).2 = some (i, payload)) :
    ((s.recv name topic).1.recv name topic).2 = some (i, payload) := by
  obtain ⟨hs, hl⟩ := recv_eq_some.mp h
  rw [recv_fst, hs, Option.getD_some, recv_eq_some, Stream.scan, start_moveTo, log_moveTo]
  exact ⟨nextFrom_hit hl _, hl⟩

/-- a reconnect — with or without StreamFromLatest — starts where the stored position says -/
theorem start_of_position (s : Stream) (name p : Nat) (h : s.position name = some p) (fromLatest : Bool) :
    (s.newReceiver name fromLatest).start name = p :=
  start_of_stored (by cases fromLatest <;> exact h)

/-- StreamFromLatest is ignored once a position has been stored (same statement, named for the property) -/
theorem C19_from_latest_ignored (s : Stream) (name p : Nat) (h : s.position name = some p) :
    (s.newReceiver name true).start name = p := start_of_position s name p h true

/-- No redelivery after the acknowledgement: after `ack name i` every later delivery to that name — also to a receiver
that reconnects, with or without StreamFromLatest — is beyond `i`. -/
theorem C19_no_redelivery_after_ack (s : Stream) (name topic i j payload : Nat) (fromLatest : Bool)
    (h : (((s.ack name i).newReceiver name fromLatest).recv name topic).2 = some (j, payload)) : i < j := by
  have := (C19_delivery_in_order _ _ _ _ _ h).1
  rw [start_of_position (s.ack name i) name (i + 1) (position_setPos _ _ _)] at this
  omega

/-- Receivers with different names progress independently: acknowledging or receiving under one name changes neither the
stored position, the floor nor the log seen by another. -/
theorem C19_names_independent_ack (s : Stream) (name other i : Nat) (h : other ≠ name) :
    (s.ack name i).position other = s.position other ∧ (s.ack name i).floor = s.floor ∧ (s.ack name i).log = s.log :=
  ⟨position_setPos_ne _ _ _ _ h, rfl, rfl⟩

theorem C19_names_independent_recv (s : Stream) (name other topic : Nat) (h : other ≠ name) :
    (s.recv name topic).1.position other = s.position other ∧ (s.recv name topic).1.floor = s.floor ∧
    (s.recv name topic).1.log = s.log := by
  rw [recv_fst]
  exact ⟨(other_moveTo _ _ _ _ h).1, (other_moveTo _ _ _ _ h).2, log_moveTo _ _ _⟩

/-- what another name receives depends only on its own position, floor and the log -/
theorem recv_congr (s t : Stream) (name topic : Nat) (hp : s.position name = t.position name)
    (hf : s.floor.lookup name = t.floor.lookup name) (hl : s.log = t.log) : (s.recv name topic).2 = (t.recv name topic).2 := by
  have hs : s.start name = t.start name := by unfold Stream.start; rw [hp, hf]
  unfold Stream.recv Stream.scan
  rw [hs, hl]
  split <;> rfl

theorem sends_eq (s : Stream) (evs : List (Nat × Nat)) :
    evs.foldl (fun s e => s.send e.1 e.2) s = { s with log := s.log ++ evs } := by
  induction evs generalizing s with
  | nil => simp
  | cons e es ih => rw [List.foldl_cons, ih]; simp [Stream.send]

/-- StreamFromLatest with no stored position: the receiver starts at the length the log had at its creation — also when
that length was 0 — however many events are sent afterwards (so what it receives, by `C19_delivery_in_order`, are the topic
events sent after its creation). -/
theorem C19_from_latest (s : Stream) (name : Nat) (h : s.position name = none) (evs : List (Nat × Nat)) :
    (evs.foldl (fun s e => s.send e.1 e.2) (s.newReceiver name true)).start name = s.log.length := by
  rw [sends_eq]
  exact start_of_floor h (position_setPos s.floor name s.log.length)

theorem C19_send_appends (s : Stream) (t p : Nat) : (s.send t p).log = s.log ++ [(t, p)] ∧ (s.send t p).pos = s.pos := ⟨rfl, rfl⟩

/-- regenerated tie (T2): the two decisions of memstreamer's Recv loop, as extracted from the current source, are the
model's: StreamFromLatest applies exactly when NO cursor is stored (a stored cursor of 0 counts as stored), and the
receiver waits exactly when the cursor is at or beyond the end of the log -/
theorem C19_tie_guards (fl stored : Bool) (n c : Int) :
    (Gen.G.memStreamFromLatest fl stored = true ↔ (fl = true ∧ stored = false)) ∧
    (Gen.G.memStreamAtHead n c = true ↔ n ≤ c) := by
  constructor
  · cases fl <;> cases stored <;> simp [Gen.G.memStreamFromLatest]
  · simp only [Gen.G.memStreamAtHead, decide_eq_true_iff]; omega

/-- non-vacuity: empty stream, StreamFromLatest receiver created, then two events sent: the FIRST one is delivered first,
again after a reconnect without ack, and the second one after the ack -/
example :
    let s := ((({} : Stream).newReceiver 7 true).send 1 100 |>.send 1 101)
    (s.recv 7 1).2 = some (0, 100) ∧ (((s.recv 7 1).1.newReceiver 7 true).recv 7 1).2 = some (0, 100) ∧
    (((s.recv 7 1).1.ack 7 0).recv 7 1).2 = some (1, 101) := by decide

end WorkflowModel.C19
