import WorkflowModel.Lemmas.Stable
import WorkflowModel.Props.C07
import WorkflowModel.Props.Tie
/-! # C11 — processes act only under their role, survive errors, and stop cleanly

Over the engine model (supervision loop `procOp` = `runOnce` around one operation; `leaseLossOp` = the scheduler cancelling
the role context of a parked process):
* losing the role touches nothing but the process's own parking state: no run, outbox entry, log entry, cursor, timer or
  counter changes, the receiver is closed and the process goes back to asking for its role;
* a failing operation never ends the process: it parks in back-off (or asks for the role again when the lease is gone),
  and from back-off it asks for the role again;
* no reachable parking state is a dead end: after a finite wait every process can take a step, or it is idle at an empty
  stream.
The role scheduler clause is `C11Roles`. Contexts (every adapter call under the lease of the calling process), Run/Stop
and closing of receivers/senders/connector consumers are checked on the implementation by the simulator's monitors and
the suites `live-supervise` (also under the race detector). -/
namespace WorkflowModel.C11
open WorkflowModel Engine

/-- what is not the processes' parking bookkeeping -/
def payload (s : Sys) := (s.runs, s.outbox, s.outN, s.log, s.cursors, s.timers, s.timerN, s.counts, s.now)

theorem payload_setPState (s : Sys) (p : Proc) (x : PState) : payload (s.setPState p x) = payload s := rfl

/-- Losing the role stops the work: the cancelled process changes no run, outbox entry, stream entry, cursor, timer or
error counter, and no other process's state; for every parking state and every process. -/
theorem C11_lease_loss_frame (cfg : Cfg) (p : Proc) (env : Env) (st : OpSt) :
    payload (leaseLossOp cfg p env st).2.sys = payload st.sys ∧
    ∀ q, q ≠ p → (leaseLossOp cfg p env st).2.sys.pstate q = st.sys.pstate q :=
  Pres.leaseLossOp (I := fun s => payload s = payload st.sys ∧ ∀ q, q ≠ p → s.pstate q = st.sys.pstate q) p
    (fun s h => ⟨h.1, fun q hq => (pstate_setPState_ne s p q .needRole hq).trans (h.2 q hq)⟩) env st ⟨rfl, fun _ _ => rfl⟩

/-- … and the process goes back to asking for its role (a poller from its poll gate, a consumer from its receive or lag
wait, anything from back-off). `hp`: only a poller is ever parked at the poll gate; `leaseLossOp` leaves another process there. -/
theorem C11_lease_loss_needs_role (cfg : Cfg) (p : Proc) (env : Env) (st : OpSt)
    (hp : ∀ since, st.sys.pstate p = .atPoll since → ∃ s, p = .poller s) :
    (leaseLossOp cfg p env st).2.sys.pstate p = .needRole := by
  unfold leaseLossOp
  simp only [bind_run, Engine.getSys]
  cases hps : st.sys.pstate p with
  | needRole => exact hps
  | atPoll since =>
    obtain ⟨s, rfl⟩ := hp since hps
    exact pstate_setPState _ _ _
  | _ => exact pstate_setPState _ _ _

/-- A failing operation never ends the process: it parks in error back-off — or asks for its role again at once when the
lease is gone. (C07_failure_backoff, restated for the supervision clause.) -/
theorem C11_failure_retries (cfg : Cfg) (p : Proc) (env : Env) (st : OpSt) (a : Abort)
    (hfail : (procBody cfg p (st.sys.pstate p) env st).1 = .error a) :
    (∃ u, ((procOp cfg p) env st).2.sys.pstate p = .backoff u) ∨ ((procOp cfg p) env st).2.sys.pstate p = .needRole := by
  have h := C07.C07_failure_backoff cfg p env st a hfail
  simp only [] at h
  cases hc : (procBody cfg p (st.sys.pstate p) env st).2.cancelled with
  | false => exact Or.inl ⟨_, h.1 hc⟩
  | true => exact Or.inr (h.2 hc)

/-- From back-off the process asks for its role again (it does nothing else), whether or not its lease is still live: both
ways out of `runOnce` park it at the role gate. -/
theorem backoff_then_role (cfg : Cfg) (p : Proc) (u : Int) (env : Env) (st : OpSt) (h : st.sys.pstate p = .backoff u) :
    ((procOp cfg p) env st).2.sys.pstate p = .needRole ∧ payload ((procOp cfg p) env st).2.sys = payload st.sys := by
  rw [procOp_sys, h]
  exact ⟨(pstate_setPState _ _ _).trans (ite_self (c := st.cancelled = true) PState.needRole), rfl⟩

theorem C11_backoff_then_role (cfg : Cfg) (p : Proc) (u : Int) (env : Env) (st : OpSt) (h : st.sys.pstate p = .backoff u)
    (hc : st.cancelled = false) :
    ((procOp cfg p) env st).2.sys.pstate p = .needRole ∧ payload ((procOp cfg p) env st).2.sys = payload st.sys :=
  have _ := hc
  backoff_then_role cfg p u env st h

/-- No parking state is a dead end: after a finite wait the process can take a step, or it is idle at an empty stream. -/
theorem C11_never_dead (s : Sys) (p : Proc) :
    ∃ d : Int, 0 ≤ d ∧ ((s.tick d).enabled p = true ∨ (s.pstate p = .atRecv ∧ (s.nextIndex p).isNone)) := by
  -- a process waiting for the instant `u` is released once the clock has reached it
  have wait : ∀ u : Int, ∃ d : Int, 0 ≤ d ∧ decide (u ≤ (s.tick d).now) = true := fun u =>
    ⟨(u - s.now).toNat, Int.natCast_nonneg _, decide_eq_true (Int.le_add_of_sub_left_le (Int.self_le_toNat _))⟩
  have hps : ∀ d, (s.tick d).pstate p = s.pstate p := fun _ => rfl
  unfold Sys.enabled
  simp only [hps]
  cases s.pstate p with
  | needRole => exact ⟨0, Int.le_refl 0, Or.inl rfl⟩
  | atPoll since => exact ⟨0, Int.le_refl 0, Or.inl rfl⟩
  | atRecv =>
    cases hn : s.nextIndex p with
    | none => exact ⟨0, Int.le_refl 0, Or.inr ⟨rfl, rfl⟩⟩
    | some i => exact ⟨0, Int.le_refl 0, Or.inl (hn ▸ rfl : (s.nextIndex p).isSome = true)⟩
  | lagWait i u => exact (wait u).imp fun d h => ⟨h.1, Or.inl h.2⟩
  | backoff u => exact (wait u).imp fun d h => ⟨h.1, Or.inl h.2⟩

/-- T2: `runOnce` awaits the role, defers the cancel, runs the process under the role context and waits the back-off on
the workflow clock; the step process opens its receiver under that context and closes it on every exit -/
theorem C11_tie_order : Tie.runOnce = true ∧ Tie.stepProcess = true :=
  ⟨beq_self_eq_true _, beq_self_eq_true _⟩

/-- non-vacuity: a step consumer parked at its receive gate loses its role: needRole, receiver closed, nothing else -/
example :
    let cfg : Cfg := { calls := [{ kind := .step, src := 1, dests := [2] }] }
    let s := runActs cfg {} [.trigger 0 0 7 {}, .step (.step 1 1 1) {}]
    s.pstate (.step 1 1 1) = .atRecv ∧ (stepAct cfg s (.lease (.step 1 1 1))).sys.pstate (.step 1 1 1) = .needRole ∧
    (stepAct cfg s (.lease (.step 1 1 1))).obs = ["recv~", "close"] := by
  decide +kernel

end WorkflowModel.C11
