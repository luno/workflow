import WorkflowModel.Lemmas.Token
import WorkflowModel.Lemmas.Reach
/-! # Whole-history theorems: every reachable state, every run, every pair of consecutive writes

`history_inv`: in every state the engine model reaches — by any interleaving of API calls, process operations under any
fault plan (error before / after the effect, lease loss at any adapter call), any user-function outcomes, lease losses,
clock advances, cursor rewinds and duplicate deliveries — every run's write history is a legal history (`HistInv`), PROVIDED
* reads are current (`env.stale = 0`; a lagging replica is finding F16),
* no controller handle obtained earlier is used (`Act.hctl` excluded; finding F17),
* user functions do not re-enter the API for a run (`NoNested`; finding F20),
* there is at most one timeout configuration per status (`OneTimeout`; finding F19).
Each hypothesis excludes exactly one listed finding; the harness's per-history monitors report those histories against the
real code. The property statements about paths (C02, C03), versions and identity (C16), stopped runs (C08), data deletion
(C15) and one unfinished run per foreign ID (C09) are corollaries; so is the sufficiency of the version gate (C04, C06, C08).
Then the witnesses: a history that meets the hypotheses, and for each hypothesis one that breaks it and the invariant with it.
Last, `token_inv`: under the same hypotheses, without cursor rewinds and skip values (`FreshAct2`), no live run and no delete
request is ever left without a pending announcement (`TokInv`, Lemmas/Token.lean), with its corollaries for C01 and C15. -/
namespace WorkflowModel.History
open WorkflowModel Engine RS

/-- the environment of one operation: reads are current and user functions do not re-enter the API -/
def FreshEnv (env : Env) : Prop := env.stale = 0 ∧ NoNested env

/-- the actions the theorem quantifies over: everything except the use of a stale controller handle -/
def FreshAct : Act → Prop
  | .step _ env => FreshEnv env
  | .trigger _ _ _ env => FreshEnv env
  | .callback _ _ env => FreshEnv env
  | .ctl _ _ env => FreshEnv env
  | .hctl _ _ _ => False
  | _ => True

/-- `Inv` is not a `StepInv` (Lemmas/Reach.lean): a write keeps it only if it is legal, so every action goes through its
triple (Lemmas/HistOps.lean) instead of the preservation rules -/
theorem stepAct_inv {cfg : Cfg} (h1 : OneTimeout cfg) (s : Sys) (a : Act) (hf : FreshAct a) (hi : Inv cfg s) :
    Inv cfg (stepAct cfg s a).sys := by
  have hrel := (RelayInv.stepInv cfg).step s a hi.relay
  cases a with
  | step p env =>
    simp only [stepAct]
    split
    · exact procOp_inv hf.2 h1 p _ hi hf.1
    · exact hi
  | lease p => exact hi.frame (Pres.leaseLossOp (I := (·.runs = s.runs)) (cfg := cfg) p (fun _ h => h) {} _ rfl) hrel
  | trigger fid start n env =>
    simp only [stepAct, apiOut_sys]
    exact ((triggerApi_ht fid start n).run hi hf.1 trivial true).1
  | callback fid status env =>
    simp only [stepAct, apiOut_sys]
    exact ((HT.bind (callbackApi_ht hf.2 fid status fuelDefault) fun _ => HT.done).run hi hf.1 trivial true).1
  | ctl rid op env =>
    simp only [stepAct, apiOut_sys]
    exact ((ctlFreshApi_ht rid op).run hi hf.1 trivial true).1
  | handle rid => exact hi.frame ((congrArg Sys.runs (apiOut_sys _)).trans (Fr.handleApi rid {} _).1) hrel
  | hctl h op env => exact hf.elim
  | tick sec => exact hi.frame rfl hrel
  | rewind p idx => exact hi.frame (by simp only [stepAct]; split <;> rfl) hrel
  | dup idx => exact hi.frame (by simp only [stepAct]; split <;> rfl) hrel

/-- **Every reachable state has legal histories.** -/
theorem history_inv (cfg : Cfg) (h1 : OneTimeout cfg) (as : List Act) (hf : ∀ a ∈ as, FreshAct a) :
    Inv cfg (runActs cfg {} as) :=
  runActs_ind (fun s a => stepAct_inv h1 s a) as {} hf (Inv.init cfg)

/-- the executable form of the history invariants (what the model driver's `hist` evaluates on co-simulated histories): within the
hypotheses both mirrors answer true -/
theorem history_mirrors (cfg : Cfg) (h1 : OneTimeout cfg) (as : List Act) (hf : ∀ a ∈ as, FreshAct a) :
    histOK cfg (runActs cfg {} as) = true ∧ oneUnfB (runActs cfg {} as) = true :=
  ⟨(histOK_iff cfg _).mpr (history_inv cfg h1 as hf).hist, oneUnfB_of (history_inv cfg h1 as hf).one⟩

theorem chain_drop {cfg : Cfg} : ∀ (l : List Rec) (k : Nat), Chain cfg l → k < l.length → Chain cfg (l.drop k)
  | _, 0, h, _ => h
  | [_], _ + 1, _, hk => absurd hk (by simp)
  | _ :: a :: t, k + 1, h, hk => chain_drop (a :: t) k h.2 (Nat.lt_of_succ_lt_succ hk)

theorem chain_from {cfg : Cfg} {l : List Rec} {k : Nat} {w : Rec} (hc : Chain cfg l) (hk : l[k]? = some w) :
    Chain cfg (w :: l.drop (k + 1)) := by
  obtain ⟨hlt, rfl⟩ := List.getElem?_eq_some_iff.mp hk
  rw [← List.drop_eq_getElem_cons hlt]
  exact chain_drop l k hc hlt

/-- the newest record of a chain carries the number of writes as its version -/
theorem chain_head_version {cfg : Cfg} : ∀ (w : Rec) (t : List Rec), Chain cfg (w :: t) → w.version = (t.length + 1 : Nat)
  | _, [], h => h.version
  | _, a :: t, h => by rw [h.1.version, chain_head_version a t h.2]; rfl

theorem chain_adjacent {cfg : Cfg} (l : List Rec) (k : Nat) (a b : Rec) (hc : Chain cfg l) (hb : l[k]? = some b)
    (ha : l[k + 1]? = some a) : Edge cfg a b := by
  have := chain_from hc hb
  obtain ⟨hlt, rfl⟩ := List.getElem?_eq_some_iff.mp ha
  rw [List.drop_eq_getElem_cons hlt] at this
  exact this.1

theorem chain_last {cfg : Cfg} (l : List Rec) (w : Rec) (hc : Chain cfg l) (hl : l.getLast? = some w) : InitOK cfg w := by
  rw [List.getLast?_eq_getElem?] at hl
  have := chain_from hc hl
  rwa [List.drop_of_length_le (by omega)] at this

theorem chain_version {cfg : Cfg} (l : List Rec) (k : Nat) (w : Rec) (hc : Chain cfg l) (hk : l[k]? = some w) :
    w.version = (l.length - k : Nat) := by
  rw [chain_head_version w _ (chain_from hc hk), List.length_drop]
  have := (List.getElem?_eq_some_iff.mp hk).1
  congr 1
  omega

/-- versions number the positions of a chain -/
theorem chain_version_inj {cfg : Cfg} {l : List Rec} (hc : Chain cfg l) {k k' : Nat} {w w' : Rec} (hw : l[k]? = some w)
    (hw' : l[k']? = some w') (hv : w.version = w'.version) : k = k' := by
  rw [chain_version l k w hc hw, chain_version l k' w' hc hw'] at hv
  have := (List.getElem?_eq_some_iff.mp hw).1
  have := (List.getElem?_eq_some_iff.mp hw').1
  omega

section Statements
variable (cfg : Cfg) (h1 : OneTimeout cfg) (as : List Act) (hf : ∀ a ∈ as, FreshAct a)
include h1 hf

theorem reachable_run {i : Nat} {x : RunS} (hx : (runActs cfg {} as).runs[i]? = some x) : RunOK cfg i x :=
  (history_inv cfg h1 as hf).hist i x hx

theorem reachable_edge {i k : Nat} {x : RunS} {a b : Rec} (hx : (runActs cfg {} as).runs[i]? = some x)
    (hb : x.hist[k]? = some b) (ha : x.hist[k + 1]? = some a) : Edge cfg a b :=
  chain_adjacent x.hist k a b (reachable_run cfg h1 as hf hx).chain hb ha

/-- C03: the run states of consecutive writes of a run follow the documented lifecycle … -/
theorem C03_lifecycle_path (i k : Nat) (x : RunS) (a b : Rec)
    (hx : (runActs cfg {} as).runs[i]? = some x) (hb : x.hist[k]? = some b) (ha : x.hist[k + 1]? = some a) :
    Lifecycle a.runState b.runState :=
  (reachable_edge cfg h1 as hf hx hb ha).lifecycle

/-- … every run starts Initiated … -/
theorem C03_first_write_initiated (i : Nat) (x : RunS) (w : Rec)
    (hx : (runActs cfg {} as).runs[i]? = some x) (hw : x.hist.getLast? = some w) : w.runState = 1 ∧ w.version = 1 :=
  let h := chain_last x.hist w (reachable_run cfg h1 as hf hx).chain hw
  ⟨h.runState, h.version⟩

/-- … and a finished run stays finished: whatever is written later (any number of writes later) is finished too. -/
theorem C03_finished_stays_finished (i : Nat) (x : RunS) (hx : (runActs cfg {} as).runs[i]? = some x) :
    ∀ (d k : Nat) (a b : Rec), x.hist[k + d]? = some a → x.hist[k]? = some b → FinishedSpec a.runState → FinishedSpec b.runState := by
  intro d k a b ha hb hfin
  -- `a` lies in the history from `b` on, which is a chain with `b` at its head
  have hmem : a ∈ b :: x.hist.drop (k + 1) := by
    obtain ⟨hlt, rfl⟩ := List.getElem?_eq_some_iff.mp hb
    rw [← List.drop_eq_getElem_cons hlt]
    exact List.mem_of_getElem? (List.getElem?_drop.trans ha)
  exact chain_head_closed (S := fun w => FinishedSpec w.runState) (fun _ _ he => C03.C03_finished_closed _ _ he.lifecycle) b _
    (chain_from (reachable_run cfg h1 as hf hx).chain hb) ⟨a, hmem, hfin⟩

/-- C02: consecutive writes keep the status or follow a declared transition; the first write is at a declared status. -/
theorem C02_status_path (i k : Nat) (x : RunS) (a b : Rec)
    (hx : (runActs cfg {} as).runs[i]? = some x) (hb : x.hist[k]? = some b) (ha : x.hist[k + 1]? = some a) :
    b.status = a.status ∨ (a.status, b.status) ∈ cfg.edges :=
  (reachable_edge cfg h1 as hf hx hb ha).status

theorem C02_first_status_declared (i : Nat) (x : RunS) (w : Rec)
    (hx : (runActs cfg {} as).runs[i]? = some x) (hw : x.hist.getLast? = some w) : Graph.isValid cfg.graph w.status = true :=
  (chain_last x.hist w (reachable_run cfg h1 as hf hx).chain hw).valid

/-- C16: the k-th newest of n writes of a run has version n - k: versions are 1, 2, 3, … without gaps or repeats … -/
theorem C16_versions (i k : Nat) (x : RunS) (w : Rec)
    (hx : (runActs cfg {} as).runs[i]? = some x) (hw : x.hist[k]? = some w) : w.version = (x.hist.length - k : Nat) :=
  chain_version x.hist k w (reachable_run cfg h1 as hf hx).chain hw

/-- … identity and creation time never change, the status description follows the status, and the object changes only
with a status advance or the data deletion. -/
theorem C16_identity_and_object (i k : Nat) (x : RunS) (a b : Rec)
    (hx : (runActs cfg {} as).runs[i]? = some x) (hb : x.hist[k]? = some b) (ha : x.hist[k + 1]? = some a) :
    b.runId = a.runId ∧ b.fid = a.fid ∧ b.createdAt = a.createdAt ∧ b.version = a.version + 1 ∧ b.descr = b.status ∧
    (b.obj = a.obj ∨ (a.status, b.status) ∈ cfg.edges ∨ b.runState = 6) := by
  have hr := reachable_run cfg h1 as hf hx
  have he := chain_adjacent x.hist k a b hr.chain hb ha
  exact ⟨he.runId, he.fid, he.createdAt, he.version, (hr.recs b (List.mem_of_getElem? hb)).descr, he.obj⟩

/-- C08: a write over a stopped record (Paused, Cancelled, RequestedDataDeleted, DataDeleted) never changes the status, and
changes the object only by the data deletion. -/
theorem not_live_run_unchanged (i k : Nat) (x : RunS) (a b : Rec)
    (hx : (runActs cfg {} as).runs[i]? = some x) (hb : x.hist[k]? = some b) (ha : x.hist[k + 1]? = some a)
    (hs : ¬(a.runState = 1 ∨ a.runState = 2)) : b.status = a.status ∧ (b.obj = a.obj ∨ b.runState = 6) := by
  have he := reachable_edge cfg h1 as hf hx hb ha
  rcases he.kind with ⟨g1, h2, _⟩ | ⟨g1, _⟩ | ⟨_, h2, h3⟩
  · exact ⟨g1, Or.inl h2⟩
  · exact absurd g1 hs
  · exact ⟨h3, Or.inr h2⟩

theorem C08_stopped_run_unchanged (i k : Nat) (x : RunS) (a b : Rec)
    (hx : (runActs cfg {} as).runs[i]? = some x) (hb : x.hist[k]? = some b) (ha : x.hist[k + 1]? = some a)
    (hs : Gen.stopped a.runState = true) : b.status = a.status ∧ (b.obj = a.obj ∨ b.runState = 6) :=
  not_live_run_unchanged cfg h1 as hf i k x a b hx hb ha (not_live_of_stopped hs)

/-- C15: DataDeleted is only ever written over RequestedDataDeleted or DataDeleted. -/
theorem C15_deleted_only_after_request (i k : Nat) (x : RunS) (a b : Rec)
    (hx : (runActs cfg {} as).runs[i]? = some x) (hb : x.hist[k]? = some b) (ha : x.hist[k + 1]? = some a)
    (h6 : b.runState = 6) : a.runState = 7 ∨ a.runState = 6 := by
  have he := reachable_edge cfg h1 as hf hx hb ha
  have := he.lifecycle
  unfold Lifecycle at this
  womega

/-- C03: Completed is only ever persisted at a status without outgoing transitions. -/
theorem C03_completed_at_terminal (i : Nat) (x : RunS) (w : Rec)
    (hx : (runActs cfg {} as).runs[i]? = some x) (hw : w ∈ x.hist) (h5 : w.runState = 5) :
    Graph.isTerminal cfg.graph w.status = true :=
  ((reachable_run cfg h1 as hf hx).recs w hw).completedTerminal h5

/-- C09: of two runs of one foreign ID the EARLIER created one is finished - so at most one run per foreign ID is unfinished, and
it is the most recently created one (the run `Latest` answers with, which is what `Trigger` tests). -/
theorem C09_one_unfinished_run (i j : Nat) (x y : RunS) (hij : i < j)
    (hx : (runActs cfg {} as).runs[i]? = some x) (hy : (runActs cfg {} as).runs[j]? = some y) (hfid : x.fid = y.fid) :
    ∃ h t, x.hist = h :: t ∧ FinishedSpec h.runState :=
  (history_inv cfg h1 as hf).one i j x y hij hx hy hfid

/-- C01: "each step's persisted effect is applied exactly once": no two writes of a run carry the same version - a second
application of an effect would be a second write based on the same record, i.e. a second write with its version + 1. -/
theorem C01_no_effect_twice (i k k' : Nat) (x : RunS) (w w' : Rec)
    (hx : (runActs cfg {} as).runs[i]? = some x) (hw : x.hist[k]? = some w) (hw' : x.hist[k']? = some w')
    (hv : w.version = w'.version) : k = k' :=
  chain_version_inj (reachable_run cfg h1 as hf hx).chain hw hw' hv

/-- C01 / C04 / C07: in any reachable state, a delivery to a step consumer that ends with the acknowledgement (a normal return
of `deliver`; any fault plan, any outcomes that neither re-enter the API nor answer with a skip value) leaves legal histories
and either the event belonged to another shard, or the announced version needs no further handling: the run is no longer
persisted Initiated/Running at that version - it had moved on already (old announcement), it is stopped, or this very
operation persisted the step's effect, the pause/cancel the function asked for, or the auto-pause. An announcement that still
describes the live run is therefore never acknowledged away ("no run is left stranded with an unprocessed change"). -/
theorem C01_step_ack_means_handled (env : Env) (hn : NoNested env) (hs : NoSkip env) (hz : env.stale = 0)
    (s : Status) (shard total : Int) (idx : Nat) (e : Event)
    (hok : (runM (deliver cfg (.step s shard total) idx e) env (runActs cfg {} as) false).1 = .ok ()) :
    Inv cfg (runM (deliver cfg (.step s shard total) idx e) env (runActs cfg {} as) false).2.sys ∧
    (filteredOut (.step s shard total) idx e = true ∨
      ∀ w, (runM (deliver cfg (.step s shard total) idx e) env (runActs cfg {} as) false).2.sys.cur e.runId = some w →
        (w.runState = 1 ∨ w.runState = 2) → w.version ≠ e.version) := by
  have h := (deliver_step_done (cfg := cfg) hn hs s shard total idx e).run (history_inv cfg h1 as hf) hz trivial false
  exact ⟨h.1, h.2 () hok⟩

/-- C15 / C07: in any reachable state, a delivery of a published delete request to the delete consumer that ends with the
acknowledgement leaves the run persisted DataDeleted (any fault plan, any outcome of the custom delete function): an accepted
deletion request is never acknowledged away before it has been executed. -/
theorem C15_ack_means_deleted (env : Env) (hz : env.stale = 0) (idx : Nat) (e : Event)
    (he : e ∈ (runActs cfg {} as).log) (hk : e.topicKind = 1)
    (hok : (runM (deliver cfg .delete idx e) env (runActs cfg {} as) false).1 = .ok ()) :
    ∃ w, (runM (deliver cfg .delete idx e) env (runActs cfg {} as) false).2.sys.cur e.runId = some w ∧ w.runState = 6 := by
  have hi := history_inv cfg h1 as hf
  exact ((deliver_delete_done idx e).run hi hz (hasRDD_of_delete_event hi he hk) false).2 () hok

/-- C05 + histories: in every reachable state every write is pending in the outbox or published, and nothing else is. -/
theorem C05_relay_with_history : RelayInv (runActs cfg {} as) := (history_inv cfg h1 as hf).relay

end Statements

/-! ## the version gate is sufficient (C04, C06, C08)

An event on a status topic whose version is the run's current version describes the run's persisted record: that record is at
the topic's status and Initiated or Running. So a step (or timer) function that passed the version gate is invoked at its own
status, on a run that is neither stopped nor finished - in every reachable state, whatever was redelivered, duplicated or
rewound. (This is why the `Stopped()` test behind the version gate in `stepConsumer` never fires on current reads.) -/

section Gate
variable (cfg : Cfg) (h1 : OneTimeout cfg) (as : List Act) (hf : ∀ a ∈ as, FreshAct a)
include h1 hf

theorem current_announcement_describes_head (e : Event) (he : e ∈ (runActs cfg {} as).log)
    (w : Rec) (hw : (runActs cfg {} as).cur e.runId = some w) (hv : w.version = e.version) :
    w.status = e.topicStatus ∧ (e.topicKind = 0 → w.runState = 1 ∨ w.runState = 2) ∧ Routing.route w = core e := by
  have hi := history_inv cfg h1 as hf
  obtain ⟨run, w0, hx, hw0, hc⟩ := event_written hi he
  obtain ⟨⟨x, t, hx', hl⟩, hidw⟩ := isHead_of_curR hi.hist (show curR _ e.runId = some w from hw)
  rw [hidw, hx] at hx'
  cases hx'
  have hrunok := hi.hist _ _ hx
  have hwin : w ∈ run.hist := by rw [hl]; exact List.mem_cons_self ..
  -- the announced record and the head are in one history and carry one version: they are the same record
  obtain ⟨k, hwk⟩ := List.getElem?_of_mem hwin
  obtain ⟨k', hwk'⟩ := List.getElem?_of_mem hw0
  cases chain_version_inj hrunok.chain hwk hwk' (hv.trans (congrArg Event.version hc))
  cases hwk.symm.trans hwk'
  have hrec := hrunok.recs w hwin
  exact ⟨(congrArg Event.topicStatus hc).symm,
    fun hk => (Routing.topicKind_status hrec.lo hrec.hi).mp ((congrArg Event.topicKind hc).symm.trans hk), hc.symm⟩

theorem C04_current_announcement_describes_head (e : Event) (he : e ∈ (runActs cfg {} as).log) (hk : e.topicKind = 0)
    (w : Rec) (hw : (runActs cfg {} as).cur e.runId = some w) (hv : w.version = e.version) :
    w.status = e.topicStatus ∧ (w.runState = 1 ∨ w.runState = 2) ∧ Routing.route w = core e :=
  let ⟨a, b, c⟩ := current_announcement_describes_head cfg h1 as hf e he w hw hv
  ⟨a, b hk, c⟩

end Gate

/-! ## non-vacuity, and why every hypothesis is needed

One configuration (a step with a self-loop and a callback on status 1) and one with two timeouts on a status. The fresh
history reaches a run with three writes; each of the four excluded features produces, on the same model, a run whose history
is NOT legal (version 2 written twice; in the stale-handle case a Completed run turned Paused). The same four histories are
corpus entries of the harness, where the real code does the same (findings F17, F16, F20, F19). -/

def cfgW : Cfg := { calls := [{ kind := .step, src := 1, dests := [1, 2] }, { kind := .callback, src := 1, dests := [1] }] }
def cfgT : Cfg := { calls := [{ kind := .timeout, src := 1, dests := [1] }, { kind := .timeout, src := 1, dests := [1] }] }
def sp : Proc := .step 1 0 0

def asFresh : List Act :=
  [.trigger 0 1 5 {}, .step .outbox {}, .step sp {}, .step sp { outcomes := [.ret 2 9] }, .ctl 0 .deleteData {}]
def asHandle : List Act :=
  [.trigger 0 1 5 {}, .handle 0, .step .outbox {}, .step sp {}, .step sp { outcomes := [.ret 2 9] }, .hctl 0 .pause {}]
def asStale : List Act :=
  [.trigger 0 1 5 {}, .step .outbox {}, .step sp {}, .step sp { outcomes := [.ret 1 7], faults := [(4, .before)] },
   .tick 1, .step sp {}, .step sp {}, .step sp { stale := 1, outcomes := [.ret 1 8] }]
def asNested : List Act :=
  [.trigger 0 1 5 {}, .step .outbox {}, .step sp {}, .step sp { outcomes := [.nested 1, .ret 1 5, .ret 1 6] }]
def asTwo : List Act :=
  [.trigger 0 1 5 {}, .step .outbox {}, .step (.inserter 1) {}, .step (.inserter 1) { outcomes := [.timer 0, .zero] },
   .step (.poller 1) {}, .tick 1, .step (.poller 1) { outcomes := [.ret 1 5, .ret 1 6] }]

def summary (cfg : Cfg) (as : List Act) : List (List (Int × Int × Int × Int)) :=
  (runActs cfg {} as).runs.map (fun x => x.hist.map (fun r => (r.version, r.runState, r.status, r.obj)))

theorem oneTimeout_cfgW : OneTimeout cfgW := by intro s; simp [cfgW, Cfg.timeoutsAt]

theorem fresh_asFresh : ∀ a ∈ asFresh, FreshAct a := by
  intro a ha
  simp only [asFresh, List.mem_cons, List.mem_nil_iff, or_false] at ha
  rcases ha with rfl | rfl | rfl | rfl | rfl <;> simp [FreshAct, FreshEnv, NoNested]

/-- the hypotheses are satisfiable by a history with a trigger, a relay cycle, a handled event and a controller call -/
theorem nonvacuous_fresh : summary cfgW asFresh = [[(3, 7, 2, 9), (2, 5, 2, 9), (1, 1, 1, 5)]] ∧ histOK cfgW (runActs cfgW {} asFresh) = true := by
  decide +kernel

/-- … and by one in which a second run of the same foreign ID is triggered after the first finished (C09): a trigger while the
first was still running was refused, so there are two runs, not three -/
theorem nonvacuous_two_runs :
    summary cfgW ([.trigger 0 1 5 {}, .trigger 0 1 4 {}, .step .outbox {}, .step sp {}, .step sp { outcomes := [.ret 2 9] }, .trigger 0 1 6 {}]) =
      [[(2, 5, 2, 9), (1, 1, 1, 5)], [(1, 1, 1, 6)]] := by
  decide +kernel

theorem illegal_of_histOK_false {cfg : Cfg} {s : Sys} (h : histOK cfg s = false) : ¬ Inv cfg s := by
  intro hi
  have := (histOK_iff cfg s).mpr hi.hist
  rw [h] at this; cases this

/-- F17: a controller handle obtained before the run completed pauses the completed run (version 2 written twice) -/
theorem stale_handle_breaks_history :
    summary cfgW asHandle = [[(2, 3, 1, 5), (2, 5, 2, 9), (1, 1, 1, 5)]] ∧ ¬ Inv cfgW (runActs cfgW {} asHandle) :=
  ⟨by decide +kernel, illegal_of_histOK_false (by decide +kernel)⟩

/-- F16: a lost acknowledgement and a replica lagging at the redelivered event's version: the step's effect is applied twice -/
theorem stale_read_breaks_history :
    summary cfgW asStale = [[(2, 2, 1, 8), (2, 2, 1, 7), (1, 1, 1, 5)]] ∧ ¬ Inv cfgW (runActs cfgW {} asStale) :=
  ⟨by decide +kernel, illegal_of_histOK_false (by decide +kernel)⟩

/-- F20: a step function that calls `Callback` for its own run and then returns: the outer write overwrites the nested one -/
theorem reentry_breaks_history :
    summary cfgW asNested = [[(2, 2, 1, 6), (2, 2, 1, 5), (1, 1, 1, 5)]] ∧ ¬ Inv cfgW (runActs cfgW {} asNested) :=
  ⟨by decide +kernel, illegal_of_histOK_false (by decide +kernel)⟩

/-- F19: two timeouts on one status share the timer and the record read: the second writes over the first -/
theorem two_timeouts_break_history :
    summary cfgT asTwo = [[(2, 2, 1, 6), (2, 2, 1, 5), (1, 1, 1, 5)]] ∧ ¬ Inv cfgT (runActs cfgT {} asTwo) :=
  ⟨by decide +kernel, illegal_of_histOK_false (by decide +kernel)⟩

/-! ## no run is stranded at a step (C01)

`C01_no_stranded_step`: in every reachable state, every run whose persisted record is Initiated or Running has the
announcement of exactly that record pending - in the outbox, or published at a position that no step-consumer process of the
record's status which handles it (its shard) has passed. Hypotheses beyond `history_inv`'s: step functions do not answer with a
skip value (a skip consumes the event by design) and no adversarial cursor rewind. A consumer parked in the consume-lag wait
holds the first event of its topic at or after its cursor (`LagOk`), which is what it will deliver. Together with `history_inv` (the pending announcement is of the CURRENT
version, so the version gate lets it through) and the relay invariant this is the safety half of "every run ends as in a
fault-free execution": whatever faults happened, the work that remains is still queued in front of a consumer that will take
it. The liveness half (fair scheduling, eventually succeeding functions) is enumerated, not proved (sim-recovery). -/

/-- `FreshAct` without cursor rewinds, and without skip values for the tracked consumers -/
def FreshAct2 : Act → Prop
  | .step p env => FreshEnv env ∧ (IsStep p = true → NoSkip env)
  | .rewind _ _ => False
  | a => FreshAct a

theorem freshAct_of_2 {a : Act} (h : FreshAct2 a) : FreshAct a := by
  cases a <;> simp only [FreshAct2, FreshAct] at * <;> first | exact h.1 | exact h | trivial

theorem stepAct_tok {cfg : Cfg} (s : Sys) (a : Act) (hf : FreshAct2 a)
    (hi : Inv cfg s) (ht : TokInv s) : TokInv (stepAct cfg s a).sys := by
  cases a with
  | step p env =>
    simp only [stepAct]
    split
    · cases hp : IsStep p with
      | true =>
        -- the two kinds of tracked consumer: a step consumer, the delete consumer
        cases p <;> simp [IsStep] at hp
        · exact procOp_step_tok hf.1.2 (hf.2 rfl) _ _ _ _ hi hf.1.1 ht
        · exact procOp_delete_tok _ hi hf.1.1 ht
      | false => exact (procOp_other_RT (cfg := cfg) p hp env _ ⟨hi.relay, ht⟩).2
    · exact ht
  | lease p => exact leaseLossOp_tok (cfg := cfg) p {} _ ht
  | hctl h op env => exact hf.elim
  | tick sec => exact ht.tick sec
  | rewind p idx => exact hf.elim
  | dup idx =>
    simp only [stepAct]
    split
    · exact ht.relaySend _
    · exact ht
  | _ => exact stepAct_api (TokInv.stableH cfg) s _ trivial ht

theorem token_inv {cfg : Cfg} (h1 : OneTimeout cfg) (as : List Act) (hf : ∀ a ∈ as, FreshAct2 a) :
    Inv cfg (runActs cfg {} as) ∧ TokInv (runActs cfg {} as) :=
  runActs_ind (J := fun s => Inv cfg s ∧ TokInv s)
    (fun s a ha h => ⟨stepAct_inv h1 s a (freshAct_of_2 ha) h.1, stepAct_tok s a ha h.1 h.2⟩) as {} hf ⟨Inv.init cfg, TokInv.init⟩

/-- **No run is stranded at a step.** -/
theorem C01_no_stranded_step (cfg : Cfg) (h1 : OneTimeout cfg) (as : List Act) (hf : ∀ a ∈ as, FreshAct2 a)
    (rid : RunId) (w : Rec) (hw : (runActs cfg {} as).cur rid = some w) (hl : w.runState = 1 ∨ w.runState = 2) :
    PendingAt (runActs cfg {} as) w :=
  (token_inv h1 as hf).2.pending rid w hw hl

/-- C01: **the system is not at rest while a run waits at a step.** In every reachable state, for a run persisted Initiated or
Running: its announcement is still in the outbox (the relay has work), or every step-consumer process of its status that handles
the event (its shard) and is parked at `Recv` is ENABLED - it has that event, or an earlier one of its topic, to receive. (A
process in its error back-off, in the lag wait or waiting for its role is on a timer or at the role scheduler, which release it.) -/
theorem C01_waiting_run_keeps_consumer_enabled (cfg : Cfg) (h1 : OneTimeout cfg) (as : List Act) (hf : ∀ a ∈ as, FreshAct2 a)
    (rid : RunId) (w : Rec) (hw : (runActs cfg {} as).cur rid = some w) (hl : w.runState = 1 ∨ w.runState = 2) :
    (∃ o ∈ (runActs cfg {} as).outbox, o.ev = Routing.route w) ∨
    (∃ i e, (runActs cfg {} as).log[i]? = some e ∧ core e = Routing.route w ∧
      ∀ k n, filteredOut (.step w.status k n) i e = false → (runActs cfg {} as).pstate (.step w.status k n) = .atRecv →
        (runActs cfg {} as).enabled (.step w.status k n) = true) := by
  rcases C01_no_stranded_step cfg h1 as hf rid w hw hl with ho | ⟨i, e, hi, hc, hk⟩
  · exact Or.inl ho
  · exact Or.inr ⟨i, e, hi, hc, fun k n hfo hp =>
      enabled_of_pending _ _ i e hp hi (live_route_subscribed hl hc k n) (hk k n hfo)⟩

/-- the executable form of the token invariant (evaluated by the model driver on co-simulated histories): in every reachable
state within the hypotheses `tokOK` answers true -/
theorem C01_tokOK (cfg : Cfg) (h1 : OneTimeout cfg) (as : List Act) (hf : ∀ a ∈ as, FreshAct2 a) :
    tokOK (runActs cfg {} as) = true :=
  tokOK_of (token_inv h1 as hf).2

/-- C15: **no accepted deletion request is stranded**: in every reachable state a run persisted RequestedDataDeleted has the
announcement of exactly that record in the outbox, or published at an index the delete consumer has not passed (same
hypotheses; the custom delete function may fail any number of times). -/
theorem C15_no_stranded_request (cfg : Cfg) (h1 : OneTimeout cfg) (as : List Act) (hf : ∀ a ∈ as, FreshAct2 a)
    (rid : RunId) (w : Rec) (hw : (runActs cfg {} as).cur rid = some w) (h7 : w.runState = 7) :
    PendingDel (runActs cfg {} as) w :=
  (token_inv h1 as hf).2.pendingDel rid w hw h7

/-- non-vacuity: after trigger and relay the announcement is published and ahead of the (not yet started) consumer -/
theorem nonvacuous_token :
    ((runActs cfgW {} [.trigger 0 1 5 {}, .step .outbox {}]).outbox.length, (runActs cfgW {} [.trigger 0 1 5 {}, .step .outbox {}]).log.length,
      (runActs cfgW {} [.trigger 0 1 5 {}, .step .outbox {}]).cursor sp) = (0, 1, 0) := by decide +kernel

/-- why `NoSkip` is needed: a step function that answers with the skip value 0 consumes its event and leaves the run Initiated
with nothing pending (by design: "skip" means "nothing to do for this event") -/
def asSkip : List Act := [.trigger 0 1 5 {}, .step .outbox {}, .step sp {}, .step sp { outcomes := [.ret 0 5] }]

theorem skip_leaves_nothing_pending :
    ∃ w, (runActs cfgW {} asSkip).cur 0 = some w ∧ (w.runState = 1 ∨ w.runState = 2) ∧ ¬ PendingAt (runActs cfgW {} asSkip) w := by
  -- by evaluation of the executable mirror of `PendingAt`, as `histOK` is evaluated for the witnesses above
  have h : ((runActs cfgW {} asSkip).cur 0).any (fun w => w.runState == 1 && !pendingAtB (runActs cfgW {} asSkip) w) = true := by
    decide +kernel
  obtain ⟨w, hw, hb⟩ := (Option.any_eq_true _ _).mp h
  rw [Bool.and_eq_true, beq_iff_eq, Bool.not_eq_true'] at hb
  exact ⟨w, hw, Or.inl hb.1, fun hp => by rw [pendingAtB_of hp] at hb; exact Bool.noConfusion hb.2⟩

end WorkflowModel.History
