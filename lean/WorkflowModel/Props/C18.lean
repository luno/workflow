import WorkflowModel.Model.Adapters.SqlStore
import WorkflowModel.Props.Tie
/-! # C18 — SQL stores: record and outbox row commit together or not at all

* atomicity of `SQLStore.Store` for EVERY failure position (begin, select, insert/update, event encoding, outbox insert,
  commit): the committed state is the state before, with an error — or the reference store's `store`, with success;
* every where clause the builder can produce binds exactly as many parameters as it has placeholders;
* "answers every operation sequence as the reference stores do" is the differential tie: the SQL stores run against an
  in-process SQL engine (harness/minisql) and are compared with RefStore / RefTimeouts answer by answer. -/
namespace WorkflowModel.C18
open WorkflowModel SqlStore

theorem runTx_atomic {σ : Type} (b c : Bool) (stmts : List (σ → Option σ)) (s : σ) :
    (runTx b c stmts s = (s, false)) ∨
    (b = true ∧ c = true ∧ ∃ s', runStmts stmts s = some s' ∧ runTx b c stmts s = (s', true)) := by
  unfold runTx
  cases b
  · exact .inl rfl
  cases h : runStmts stmts s with
  | none => exact .inl rfl
  | some s' =>
    cases c
    · exact .inl rfl
    · exact .inr ⟨rfl, rfl, s', rfl, rfl⟩

/-- `sqlStore` in closed form. The failure positions are taken in the order of the transaction: the first one that fails
decides, and every later statement is skipped. -/
theorem sqlStore_eq (b c : Bool) (ok : Nat → Bool) (enc : Bool) (s : RefStore.Store) (r : RefStore.SRec) :
    sqlStore b c ok enc s r =
      if b = true ∧ ok 0 = true ∧ ok 1 = true ∧ enc = true ∧ ok 2 = true ∧ c = true then (s.store r, true) else (s, false) := by
  unfold sqlStore runTx
  cases b
  · rfl
  cases ok 0
  · rfl
  cases ok 1
  · rfl
  cases enc
  · rfl
  cases ok 2
  · rfl
  cases c <;> rfl

/-- Store commits both rows or neither: whatever fails — and at whichever position — the committed state is untouched and
the call fails; if nothing fails, the committed state is exactly the reference store's `store` (record row inserted for a
new run ID / updated otherwise, exactly one outbox row) and the call succeeds. -/
theorem C18_store_atomic (b c : Bool) (ok : Nat → Bool) (enc : Bool) (s : RefStore.Store) (r : RefStore.SRec) :
    sqlStore b c ok enc s r = (s, false) ∨ sqlStore b c ok enc s r = (s.store r, true) := by
  rw [sqlStore_eq]
  split
  · exact .inr rfl
  · exact .inl rfl

/-- success happens exactly when nothing fails -/
theorem C18_store_ok_iff (b c : Bool) (ok : Nat → Bool) (enc : Bool) (s : RefStore.Store) (r : RefStore.SRec) :
    (sqlStore b c ok enc s r).2 = true ↔ (b = true ∧ ok 0 = true ∧ ok 1 = true ∧ enc = true ∧ ok 2 = true ∧ c = true) := by
  rw [sqlStore_eq]
  split <;> simp [*]

/-- … and any single failure leaves the committed state as it was -/
theorem C18_failure_commits_nothing (b c : Bool) (ok : Nat → Bool) (enc : Bool) (s : RefStore.Store) (r : RefStore.SRec)
    (h : ¬ (b = true ∧ ok 0 = true ∧ ok 1 = true ∧ enc = true ∧ ok 2 = true ∧ c = true)) :
    sqlStore b c ok enc s r = (s, false) := by
  rw [sqlStore_eq, if_neg h]

theorem count_append (a b : Str) : placeholders (a ++ b) = placeholders a + placeholders b :=
  List.count_append

theorem placeholders_orJoin (f : Str) (hf : placeholders f = 0) (n : Nat) : placeholders (orJoin f n) = n := by
  have e1 : placeholders [61, 63] = 1 := rfl
  have e2 : placeholders [32, 79, 82, 32] = 0 := rfl
  fun_induction orJoin f n with
  | case1 => rfl
  | case2 => rw [count_append, hf, e1]
  | case3 n ih => rw [count_append, count_append, count_append, hf, e1, e2, ih]; omega

/-- a separator without placeholders adds none: the joined text holds those of the parts -/
theorem placeholders_join (sep : Str) (hsep : placeholders sep = 0) (l : List Str) :
    placeholders (Text.join sep l) = placeholders l.flatten := by
  fun_induction Text.join sep l with
  | case1 => rfl
  | case2 a => rw [List.flatten_singleton]
  | case3 a b rest ih =>
    rw [List.flatten_cons, count_append, count_append, count_append, ih, hsep, Nat.add_zero]

/-- builder invariant: the conditions collected so far hold as many placeholders as parameters were bound, and the order
clause holds none -/
def WBInv (wb : WB) : Prop :=
  placeholders wb.conds.flatten = wb.params.length ∧ placeholders wb.orderField = 0 ∧ placeholders wb.orderType = 0

theorem wbinv_init : WBInv {} := ⟨rfl, rfl, rfl⟩

theorem wbinv_step (wb : WB) (op : BOp) (h : WBInv wb) (hc : op.clean) : WBInv (op.apply wb) := by
  obtain ⟨h1, h2, h3⟩ := h
  cases op with
  | whereIn f vs =>
    have e1 : placeholders [32, 40, 32] = 0 := rfl
    have e2 : placeholders [32, 41, 32] = 0 := rfl
    refine ⟨?_, h2, h3⟩
    show placeholders (wb.conds ++ [_]).flatten = (wb.params ++ vs).length
    rw [List.flatten_concat, count_append, count_append, count_append, placeholders_orJoin f hc, e1, e2, h1,
      List.length_append, Nat.zero_add, Nat.add_zero]
  | whereNotNull f =>
    have e : placeholders isNotNull = 0 := rfl
    refine ⟨?_, h2, h3⟩
    show placeholders (wb.conds ++ [_]).flatten = wb.params.length
    rw [List.flatten_concat, count_append, count_append, show placeholders f = 0 from hc, e, h1]
    rfl
  | orderBy f t => exact ⟨h1, hc.1, hc.2⟩
  | setOffset _ | setLimit _ => exact ⟨h1, h2, h3⟩

theorem wbinv_ops (ops : List BOp) (wb : WB) (h : WBInv wb) (hc : ∀ op ∈ ops, op.clean) : WBInv (ops.foldl BOp.apply wb) :=
  List.foldlRecOn ops BOp.apply h fun wb hwb op hop => wbinv_step wb op hwb (hc op hop)

/-- a balanced (text, parameters) pair stays balanced when a clause with one placeholder and its parameter are appended,
as `finalise` does for the limit and for the offset -/
theorem balanced_bind (p : Str × List Str) (h : placeholders p.1 = p.2.length) (c : Prop) [Decidable c] (t v : Str)
    (ht : placeholders t = 1) :
    placeholders (if c then (p.1 ++ t, p.2 ++ [v]) else p).1 = (if c then (p.1 ++ t, p.2 ++ [v]) else p).2.length := by
  split
  · rw [count_append, h, ht, List.length_append]; rfl
  · exact h

theorem finalise_balanced (wb : WB) (h : WBInv wb) : placeholders wb.finalise.1 = wb.finalise.2.length := by
  obtain ⟨h1, h2, h3⟩ := h
  have hj : placeholders (Text.join sAnd wb.conds) = wb.params.length := (placeholders_join sAnd rfl _).trans h1
  have hw : placeholders (if wb.orderField ≠ [] then Text.join sAnd wb.conds ++ sOrderBy ++ wb.orderField ++ [32] ++ wb.orderType
      else Text.join sAnd wb.conds) = wb.params.length := by
    have eo : placeholders sOrderBy = 0 := rfl
    have es : placeholders [32] = 0 := rfl
    split
    · rw [count_append, count_append, count_append, count_append, hj, h2, h3, eo, es]; rfl
    · exact hj
  exact balanced_bind _ (balanced_bind (_, _) hw _ _ _ rfl) _ _ _ rfl

/-- Every where clause the builder can produce — ANY sequence of Where / WhereNotNull / OrderBy / Limit / Offset calls with
'?'-free field names, any values (also containing '?'), any limit and offset — binds exactly as many parameters as it
has placeholders. -/
theorem C18_placeholders_balanced (ops : List BOp) (hc : ∀ op ∈ ops, op.clean) :
    placeholders (ops.foldl BOp.apply {}).finalise.1 = (ops.foldl BOp.apply {}).finalise.2.length :=
  finalise_balanced _ (wbinv_ops ops {} wbinv_init hc)

/-- the column names `SQLStore.List` passes to the builder contain no '?' -/
theorem columns_clean : placeholders (S "workflow_name") = 0 ∧ placeholders (S "foreign_id") = 0 ∧
    placeholders (S "status") = 0 ∧ placeholders (S "run_state") = 0 ∧ placeholders (S "run_id") = 0 ∧
    placeholders (S "created_at") = 0 := by decide +kernel

/-- … in particular for every call of `SQLStore.List` -/
theorem C18_list_balanced (wf : Option Str) (fids sts rss : Option (List Str)) (limit offset : Int) (order : Str)
    (ho : placeholders order = 0) :
    placeholders ((listOps wf fids sts rss limit offset order).foldl BOp.apply {}).finalise.1 =
      ((listOps wf fids sts rss limit offset order).foldl BOp.apply {}).finalise.2.length := by
  refine C18_placeholders_balanced (listOps wf fids sts rss limit offset order) ?_
  intro op hop
  obtain ⟨k1, k2, k3, k4, k5, k6⟩ := columns_clean
  unfold listOps at hop
  simp only [List.mem_append, List.mem_cons, List.mem_nil_iff, or_false] at hop
  rcases hop with (((h | h) | h) | h) | h | h | h | h
  · cases wf <;> simp at h; subst h; exact k1
  · cases fids <;> simp at h; subst h; exact k2
  · cases sts <;> simp at h; subst h; exact k3
  · cases rss <;> simp at h; subst h; exact k4
  · subst h; exact k5
  · subst h; exact ⟨k6, ho⟩
  · subst h; trivial
  · subst h; trivial

theorem C18_tie_order : Tie.sqlStore = true := beq_self_eq_true _

/-- non-vacuity: two foreign IDs, one status, limit 3, offset 3 → six placeholders, six parameters (workflow name, two IDs, status, limit, offset) -/
example :
    let f := ((listOps (some (S "w")) (some [S "a", S "b"]) (some [S "3"]) none 3 3 (S "desc")).foldl BOp.apply {}).finalise
    placeholders f.1 = 6 ∧ f.2.length = 6 := by decide +kernel

example : (sqlStore true true (fun _ => true) true {} ⟨0, 0, 0, 1, 1, 5, 1⟩).1.outbox.length = 1 ∧
    (sqlStore true true (fun i => i != 2) true {} ⟨0, 0, 0, 1, 1, 5, 1⟩).1.outbox.length = 0 ∧
    (sqlStore true true (fun i => i != 2) true {} ⟨0, 0, 0, 1, 1, 5, 1⟩).1.recs.length = 0 ∧
    (sqlStore true true (fun i => i != 2) true {} ⟨0, 0, 0, 1, 1, 5, 1⟩).2 = false := by decide +kernel

end WorkflowModel.C18
