import WorkflowModel.Lemmas.Reach
import WorkflowModel.Props.Tie
/-! # C05 — Outbox relay: every write is published at least once and removed only afterwards

Model: `Engine` (the whole engine, not a relay-only toy): `Sys.write` is the reference store contract (record and
one outbox entry in one step), `relayOp` is `purgeOutbox` at adapter-call granularity. The theorems quantify over
EVERY list of actions — any interleaving of writers (Trigger, Callback, controllers, every consumer, the timeout
poller) with relay cycles — and, inside every operation, over EVERY fault plan (error before / after the effect,
crash, at any adapter call) and every lookup limit (`cfg.outboxLimit`, the size of a batch). Together with legal histories:
`History.C05_relay_with_history` (Props/History.lean). -/
namespace WorkflowModel.C05
open WorkflowModel Engine

/-- Every record write leaves exactly one new pending outbox entry, and that entry describes the write
(reference-store contract; `memrecordstore`/`sqlstore` are tied to it by C17/C18). -/
theorem C05_store_one_entry (s : Sys) (cfg : Cfg) (r : Rec) :
    ∃ w, (s.write cfg r).outbox = s.outbox ++ [{ ord := s.outN, ev := Routing.route w }] ∧
      Written (s.write cfg r) w ∧ w.runId = r.runId ∧ w.status = r.status ∧ w.runState = r.runState ∧ w.version = r.version := by
  obtain ⟨t, ht⟩ := stamped_eq s cfg r
  exact ⟨s.stamped cfg r, rfl, (written_write s cfg r _).mpr (Or.inr rfl), by rw [ht]; exact ⟨rfl, rfl, rfl, rfl⟩⟩

/-- In every reachable state: every write is still pending in the outbox or has been published; nothing is published
or pending that was not written; the published event equals the entry recorded for the write (topic, run ID, status,
run state, version) up to the streamer's time stamp. -/
theorem C05_inv (cfg : Cfg) (as : List Act) :
    let s := runActs cfg {} as
    (∀ w, Written s w → (∃ o ∈ s.outbox, o.ev = Routing.route w) ∨ (∃ e ∈ s.log, core e = Routing.route w)) ∧
    (∀ e ∈ s.log, ∃ w, Written s w ∧ core e = Routing.route w) ∧
    (∀ o ∈ s.outbox, ∃ w, Written s w ∧ o.ev = Routing.route w) := by
  have h := reachable_inv (RelayInv.stepInv cfg) as
  exact ⟨h.written_pending_or_published, h.log_written, h.outbox_written⟩

/-- One relay cycle, any fault plan: an entry is removed only if the stream log contains its event; a failure or crash
while creating the sender, sending or deleting leaves the invariant intact (the entry stays unless it was sent). -/
theorem C05_cycle_any_fault (cfg : Cfg) (env : Env) (st : OpSt) (h : RelayInv st.sys) :
    RelayInv ((relayOp cfg) env st).2.sys := Pres.relayOp cfg env st h

/-- An entry that was pending before its relay step and is gone afterwards has been accepted by the streamer: the log
holds its event. For every fault plan (the step may be cut anywhere). -/
theorem removed_only_after_send (o : OutE) (env : Env) (st : OpSt)
    (hin : o ∈ st.sys.outbox) (hgone : o ∉ ((relayEntry o) env st).2.sys.outbox) :
    ((relayEntry o) env st).2.sys = (st.sys.relaySend { o.ev with createdAt := st.sys.now }).relayDelete o.ord := by
  rcases relayEntry_shape o env st with h | h | h <;> rw [h] at hgone ⊢
  · exact absurd hin hgone
  · exact absurd hin hgone

theorem C05_removed_only_after_send (o : OutE) (env : Env) (st : OpSt)
    (hin : o ∈ st.sys.outbox) (hgone : o ∉ ((relayEntry o) env st).2.sys.outbox) :
    ∃ e ∈ ((relayEntry o) env st).2.sys.log, e = { o.ev with createdAt := st.sys.now } := by
  rw [removed_only_after_send o env st hin hgone]
  exact ⟨_, List.mem_append_right _ (List.mem_singleton_self _), rfl⟩

/-- A failure or crash while creating the sender, sending or deleting never removes an entry that was not sent: whenever
the log did not grow, the outbox is untouched. -/
theorem failure_changes_nothing (o : OutE) (env : Env) (st : OpSt)
    (hlog : ((relayEntry o) env st).2.sys.log = st.sys.log) : ((relayEntry o) env st).2.sys = st.sys := by
  rcases relayEntry_shape o env st with h | h | h
  · exact h
  · rw [h] at hlog; simp [Sys.relaySend] at hlog
  · rw [h] at hlog; simp [Sys.relaySend, Sys.relayDelete] at hlog

theorem C05_failure_keeps_entry (o : OutE) (env : Env) (st : OpSt)
    (hlog : ((relayEntry o) env st).2.sys.log = st.sys.log) :
    ((relayEntry o) env st).2.sys.outbox = st.sys.outbox := by
  rw [failure_changes_nothing o env st hlog]

/-- Progress: a fault-free relay step on a pending entry publishes it and removes it. -/
theorem C05_progress_one (o : OutE) (st : OpSt) (hc : st.cancelled = false) :
    ((relayEntry o) {} st).2.sys = (st.sys.relaySend { o.ev with createdAt := st.sys.now }).relayDelete o.ord ∧
    ((relayEntry o) {} st).1 = .ok () := by
  simp [relayEntry, Engine.call, Engine.tryM, Engine.emit, hc, Bind.bind]

/-- T2: the order of the relay's adapter calls in the current source: list, new sender, send, close, delete -/
theorem C05_tie_order : Tie.purgeOutbox = true ∧ Tie.updateRecord = true ∧ Tie.memStore = true :=
  ⟨beq_self_eq_true _, beq_self_eq_true _, beq_self_eq_true _⟩

/-- non-vacuity: trigger, relay with a crash right after the send took effect, relay again — the entry survives the
first cycle, the process backs off and returns, the event is published twice (at-least-once), and the outbox is empty at the end -/
example :
    let cfg : Cfg := { calls := [{ kind := .step, src := 1, dests := [2] }] }
    let s := runActs cfg {} [.trigger 0 0 7 {}, .step .outbox { faults := [(2, .after)] }, .tick 1, .step .outbox {}, .step .outbox {}]
    s.outbox = [] ∧ s.log.length = 2 := by decide +kernel

end WorkflowModel.C05
