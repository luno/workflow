import WorkflowModel.Model.Launch
import WorkflowModel.Lemmas.Text
import WorkflowModel.Props.C10Launch
/-! # C10 (role names) — the role NAMES of the launched processes are pairwise distinct, as strings

`makeRole` joins its inputs with "-", lower-cases and replaces spaces: a character-wise map `g` after the join. Every role
name ends in two fields without '-': one that names the kind of process, then "consumer" or the number of shards. A string
is cut at its last '-' in one way only, so equal names have the same kind, and what stands before the two fields gives the
parameters back (decimal renderings are injective and contain no letters). -/
namespace WorkflowModel.C10Roles
open WorkflowModel Launch Text

/-- what `makeRole` does to one byte: ASCII lower-case, then space ↦ '_' -/
def g (c : Nat) : Nat :=
  let l := if 65 ≤ c ∧ c ≤ 90 then c + 32 else c
  if l = 32 then 95 else l

def G (s : Str) : Str := s.map g

theorem makeRole_eq (inputs : List Str) : Routing.makeRole inputs = G (Text.join [45] inputs) := by
  unfold Routing.makeRole G Text.replSpace Text.lower
  rw [List.flatMap_map, List.map_eq_flatMap]
  congr 1
  funext c
  exact (apply_ite (fun x => [x]) _ _ _).symm

theorem G_append (a b : Str) : G (a ++ b) = G a ++ G b := List.map_append

theorem g_dash (c : Nat) : g c = 45 ↔ c = 45 := by
  refine ⟨fun h => ?_, fun h => by rw [h]; rfl⟩
  unfold g at h
  split at h <;> simp only [] at h <;> split at h <;> omega

theorem G_intDec (x : Int) : G (intDec x) = intDec x := by
  refine (List.map_congr_left fun c hc => ?_).trans (List.map_id _)
  have := intDec_bytes x c hc
  have h1 : ¬(65 ≤ c ∧ c ≤ 90) := by omega
  have h2 : c ≠ 32 := by omega
  simp only [g, h1, h2, if_false, id]

theorem makeRole_cons (a b : Str) (l : List Str) : Routing.makeRole (a :: b :: l) = G a ++ 45 :: Routing.makeRole (b :: l) := by
  rw [makeRole_eq, makeRole_eq, Text.join, G_append, G_append]
  exact List.append_assoc _ _ _

theorem makeRole_one (a : Str) : Routing.makeRole [a] = G a := makeRole_eq [a]

/-- what `makeRole` makes of its literal inputs, cut at the dashes where `role_split` cuts -/
theorem G_literals :
    G (S "outbox") = S "outbox" ∧ G (S "consumer") = S "consumer" ∧ G (S "of") = S "of" ∧
    G (S "timeout-consumer") = S "timeout" ++ 45 :: S "consumer" ∧
    G (S "timeout-auto-inserter-consumer") = S "timeout-auto" ++ 45 :: (S "inserter" ++ 45 :: S "consumer") ∧
    G (S "connector") = S "connector" ∧ G (S "to") = S "to" ∧
    G (S "run-state-change-hook") = S "run-state-change" ++ 45 :: S "hook" ∧
    G (S "delete") = S "delete" ∧ G (S "paused") = S "paused" ∧ G (S "records") = S "records" ∧ G (S "retry") = S "retry" := by
  decide +kernel

/-! ## the shape of a role name: front, key of the kind, last field -/

/-- index of a kind's key in `keyOf`; step shards and connector shards share "of" -/
def tag : P → Nat
  | .outbox => 0 | .step .. => 1 | .conn .. => 1 | .poller _ => 2 | .inserter _ => 3 | .hook _ => 4 | .delete => 5 | .retry => 6

def keyOf : Nat → Str
  | 0 => S "outbox" | 1 => S "of" | 2 => S "timeout" | 3 => S "inserter" | 4 => S "hook" | 5 => S "delete" | _ => S "retry"

def last : P → Str
  | .step _ _ n => intDec n | .conn _ _ n => intDec n | _ => S "consumer"

def front (name : Str) : P → Str
  | .outbox => G name
  | .step st i _ => (G name ++ 45 :: intDec st) ++ 45 :: (S "consumer" ++ 45 :: intDec i)
  | .poller st => G name ++ 45 :: intDec st
  | .inserter st => (G name ++ 45 :: intDec st) ++ 45 :: S "timeout-auto"
  | .conn cn i _ => (G cn ++ 45 :: (S "connector" ++ 45 :: (S "to" ++ 45 :: G name))) ++ 45 :: (S "consumer" ++ 45 :: intDec i)
  | .hook rs => (G name ++ 45 :: G (runStateName rs)) ++ 45 :: S "run-state-change"
  | .delete => G name
  | .retry => G name ++ 45 :: (S "paused" ++ 45 :: S "records")

theorem role_split (name : Str) (p : P) : role name p = front name p ++ 45 :: (keyOf (tag p) ++ 45 :: last p) := by
  obtain ⟨l1, l2, l3, l4, l5, l6, l7, l8, l9, l10, l11, l12⟩ := G_literals
  cases p <;>
    simp only [role, makeRole_cons, makeRole_one, G_intDec, l1, l2, l3, l4, l5, l6, l7, l8, l9, l10, l11, l12,
      front, last, List.append_assoc, List.cons_append] <;> rfl

theorem keyOf_inj : ∀ a < 7, ∀ b < 7, keyOf a = keyOf b → a = b := by decide +kernel

theorem keyOf_dash : ∀ a < 7, 45 ∉ keyOf a := by decide +kernel

theorem tag_lt (p : P) : tag p < 7 := by cases p <;> simp only [tag, Nat.reduceLT]

def hookState (rs : Int) : Prop := rs = 3 ∨ rs = 4 ∨ rs = 5

theorem hook_names {a b : Int} (ha : hookState a) (hb : hookState b) (h : G (runStateName a) = G (runStateName b)) : a = b := by
  rcases ha with rfl | rfl | rfl <;> rcases hb with rfl | rfl | rfl <;> revert h <;> decide +kernel

/-- well-formed launched processes: shard indices are positive, hooks are for Paused / Cancelled / Completed, connector
names are among `names` -/
def Wf (names : List Str) : P → Prop
  | .step _ i n => 1 ≤ i ∧ 1 ≤ n
  | .conn cn i n => 1 ≤ i ∧ 1 ≤ n ∧ cn ∈ names
  | .hook rs => hookState rs
  | _ => True

theorem consumer_dash : 45 ∉ S "consumer" := by decide +kernel

theorem last_dash {names : List Str} {p : P} (w : Wf names p) : 45 ∉ last p := by
  cases p
  case step st i n => exact intDec_no_dash (by have := w.2; omega)
  case conn cn i n => exact intDec_no_dash (by have := w.2.1; omega)
  all_goals exact consumer_dash

/-- a list is cut at its last `c` in one way only -/
theorem last_field_inj {α : Type} {c : α} {x y a b : List α} (ha : c ∉ a) (hb : c ∉ b) (h : x ++ c :: a = y ++ c :: b) :
    x = y ∧ a = b := by
  rcases List.append_eq_append_iff.mp h with ⟨m, rfl, e⟩ | ⟨m, rfl, e⟩
  · cases m with
    | nil => exact ⟨(List.append_nil x).symm, (List.cons.inj e).2⟩
    | cons d m => exact absurd (by rw [(List.cons.inj e).2]; exact List.mem_append_right m List.mem_cons_self) ha
  · cases m with
    | nil => exact ⟨List.append_nil y, ((List.cons.inj e).2).symm⟩
    | cons d m => exact absurd (by rw [(List.cons.inj e).2]; exact List.mem_append_right m List.mem_cons_self) hb

theorem two_fields_inj {α : Type} {c : α} {x y k k' a b : List α} (hk : c ∉ k) (hk' : c ∉ k') (ha : c ∉ a) (hb : c ∉ b)
    (h : x ++ c :: (k ++ c :: a) = y ++ c :: (k' ++ c :: b)) : x = y ∧ k = k' ∧ a = b := by
  have h' : (x ++ c :: k) ++ c :: a = (y ++ c :: k') ++ c :: b := by simpa using h
  obtain ⟨h1, h2⟩ := last_field_inj ha hb h'
  obtain ⟨h3, h4⟩ := last_field_inj hk hk' h1
  exact ⟨h3, h4, h2⟩

/-- the end "-consumer-<i>" of the front of a sharded name -/
theorem shard_inj {x y : Str} {i j : Int} (hi : 1 ≤ i) (hj : 1 ≤ j)
    (h : x ++ 45 :: (S "consumer" ++ 45 :: intDec i) = y ++ 45 :: (S "consumer" ++ 45 :: intDec j)) : x = y ∧ i = j := by
  obtain ⟨e1, _, e2⟩ := two_fields_inj consumer_dash consumer_dash (intDec_no_dash (by omega)) (intDec_no_dash (by omega)) h
  exact ⟨e1, intDec_inj e2⟩

theorem stem_inj {x : Str} {a b : Int} (h : x ++ 45 :: intDec a = x ++ 45 :: intDec b) : a = b :=
  intDec_inj (List.cons.inj (List.append_cancel_left h)).2

/-- a step's "<workflow>-<status>" is not a connector's "<connector>-connector-to-<workflow>": count the letters `c` -/
theorem stem_ne {name cn : Str} {st : Int} :
    G name ++ 45 :: intDec st ≠ G cn ++ 45 :: (S "connector" ++ 45 :: (S "to" ++ 45 :: G name)) := by
  intro e
  have hc := congrArg (List.count 99) e
  have h0 : List.count 99 (intDec st) = 0 :=
    List.count_eq_zero.mpr fun hm => by have := intDec_bytes st 99 hm; omega
  have h2 : List.count 99 (S "connector") = 2 := by decide +kernel
  simp only [List.count_append, List.count_cons, h0, h2] at hc
  omega

/-- equal role names, equal processes (connector names being distinct after `makeRole`'s normalisation) -/
theorem role_inj (name : Str) {names : List Str} (hG : ∀ a ∈ names, ∀ b ∈ names, G a = G b → a = b) {p q : P}
    (wp : Wf names p) (wq : Wf names q) (h : role name p = role name q) : p = q := by
  rw [role_split, role_split] at h
  obtain ⟨hf, hk, hl⟩ := two_fields_inj (keyOf_dash _ (tag_lt p)) (keyOf_dash _ (tag_lt q)) (last_dash wp) (last_dash wq) h
  have ht := keyOf_inj _ (tag_lt p) _ (tag_lt q) hk
  -- different kinds have different tags, except a step shard and a connector shard
  cases p <;> cases q <;> simp only [tag, Nat.reduceEqDiff] at ht
  case outbox.outbox => rfl
  case delete.delete => rfl
  case retry.retry => rfl
  case poller.poller a b => rw [stem_inj hf]
  case inserter.inserter a b => rw [stem_inj (List.append_cancel_right hf)]
  case hook.hook a b =>
    have e := (List.cons.inj (List.append_cancel_left (List.append_cancel_right hf))).2
    rw [hook_names wp wq e]
  case step.step st i n st' i' n' =>
    obtain ⟨e1, e2⟩ := shard_inj wp.1 wq.1 hf
    rw [stem_inj e1, e2, intDec_inj hl]
  case conn.conn cn i n cn' i' n' =>
    obtain ⟨e1, e2⟩ := shard_inj wp.1 wq.1 hf
    rw [hG cn wp.2.2 cn' wq.2.2 (List.append_cancel_right e1), e2, intDec_inj hl]
  case step.conn => exact absurd (shard_inj wp.1 wq.1 hf).1 stem_ne
  case conn.step => exact absurd (shard_inj wp.1 wq.1 hf).1.symm stem_ne

open C10Launch in
theorem launches_wf (c : Cfg) (hh : ∀ h ∈ c.hooks, hookState h) : ∀ p ∈ launches c, Wf (c.connectors.map (·.1)) p := by
  intro p hp
  simp only [launches, List.mem_append, List.mem_cons, List.mem_nil_iff, or_false, List.mem_flatMap, List.mem_map] at hp
  rcases hp with (((((rfl | ⟨s, hs, hp⟩) | hp) | ⟨k, hk, hp⟩) | ⟨h, hhk, rfl⟩) | rfl) | hp
  · trivial
  · rw [C10_step_unit] at hp
    obtain ⟨i, n, rfl, h1, h2⟩ := mem_unit hp
    exact ⟨h1, h2⟩
  · split at hp
    · obtain ⟨a, _, hp⟩ := List.mem_flatMap.mp hp
      simp only [List.mem_cons, List.mem_nil_iff, or_false] at hp
      rcases hp with rfl | rfl <;> trivial
    · cases hp
  · rw [C10_conn_unit] at hp
    obtain ⟨i, n, rfl, h1, h2⟩ := mem_unit hp
    exact ⟨h1, h2, List.mem_map.mpr ⟨k, hk, rfl⟩⟩
  · exact hh h hhk
  · trivial
  · split at hp
    · rw [List.mem_singleton.mp hp]; trivial
    · cases hp

theorem inj_of_nodup_map {α β : Type} {f : α → β} {l : List α} (h : (l.map f).Nodup) :
    ∀ a ∈ l, ∀ b ∈ l, f a = f b → a = b := by
  have hp := List.pairwise_map.mp h
  exact fun a ha b hb => List.Pairwise.forall_of_forall_of_flip (R := fun a b => f a = f b → a = b) (fun _ _ _ => rfl)
    (hp.imp fun ne e => absurd e ne) (hp.imp fun ne e => absurd e.symm ne) ha hb

/-- The role names of the launched processes are pairwise distinct strings, whatever the decimal length of the step
statuses: see `C10_role_names_distinct`. -/
theorem role_names_distinct (c : Cfg) (hs : (c.steps.map (·.1)).Nodup) (ht : c.timeouts.Nodup)
    (hc : (c.connectors.map (fun k => G k.1)).Nodup) (hh : c.hooks.Nodup) (hh3 : ∀ h ∈ c.hooks, hookState h) :
    (roles c).Nodup := by
  have hc' : ((c.connectors.map (·.1)).map G).Nodup := by rw [List.map_map]; exact hc
  have hl := C10Launch.C10_launched_once c hs ht (List.Pairwise.of_map G (fun _ _ h e => h (congrArg G e)) hc') hh
  have hw := launches_wf c hh3
  exact List.pairwise_map.mpr
    (hl.imp_of_mem fun hp hq hne e => hne (role_inj c.name (inj_of_nodup_map hc') (hw _ hp) (hw _ hq) e))

/-- THE ROLE NAMES OF THE LAUNCHED PROCESSES ARE PAIRWISE DISTINCT STRINGS — for every workflow name (spaces, upper case,
dashes, anything), every set of step / timeout statuses (negative ones included), every parallel count, provided: one
builder entry per step status, timeout status and hook; hooks are the three the builder offers; connector names stay
distinct after `makeRole`'s normalisation (lower-casing, space ↦ '_'). (The statement also asks for step statuses of fewer
than 13 characters in decimal; `role_names_distinct` above does without.) -/
theorem C10_role_names_distinct (c : Cfg) (hs : (c.steps.map (·.1)).Nodup) (ht : c.timeouts.Nodup)
    (hc : (c.connectors.map (fun k => G k.1)).Nodup) (hh : c.hooks.Nodup) (hh3 : ∀ h ∈ c.hooks, hookState h)
    (hlen : ∀ s ∈ c.steps, (intDec s.1).length < 13) : (roles c).Nodup := by
  -- `stem_ne` tells a step shard from a connector shard whatever the length of the status
  have _ := hlen
  exact role_names_distinct c hs ht hc hh hh3

/-- non-vacuity: a workflow "My WF" with a sharded step, a step at a negative status, a timeout, two connectors, a hook -/
example : (roles { name := S "My WF", defaultPar := 2, steps := [(1, 3), (-7, 0)], timeouts := [1], connectors := [(S "feed", 0), (S "Feed B", 1)], hooks := [3] }).length = 14 := by
  decide +kernel

end WorkflowModel.C10Roles
