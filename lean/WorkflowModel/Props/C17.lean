import WorkflowModel.Model.Adapters.RefStore
/-! # C17 — In-memory record store behaves like the transactional store contract

The contract is `RefStore`. Here: the properties of the contract the statement names (pages partition the matching
runs; Latest is the newest created run; Store appends exactly one outbox entry; the outbox honours its limit and order;
deleting one entry never affects another). The bundled `memrecordstore` is tied to the contract by the differential
suite `mem-recordstore` (exhaustive short operation sequences + random long ones over a small universe, including
callers that mutate records after storing / reading them). -/
namespace WorkflowModel.C17
open WorkflowModel.RefStore

/-- pages of size `m` at offsets 0, m, 2m, … concatenate to the list -/
theorem pages_concat {α : Type} (l : List α) (m n : Nat) (hn : l.length ≤ n * m) :
    (List.range n).flatMap (fun k => (l.drop (k * m)).take m) = l := by
  induction n generalizing l with
  | zero =>
    rw [Nat.zero_mul] at hn
    rw [List.eq_nil_of_length_eq_zero (Nat.le_zero.mp hn)]
    rfl
  | succ n ih =>
    -- the first page, then the pages of what is left after dropping it
    have hd : (l.drop m).length ≤ n * m := by rw [List.length_drop]; rw [Nat.succ_mul] at hn; omega
    have hk : ∀ k, (k + 1) * m = m + k * m := fun k => by rw [Nat.succ_mul, Nat.add_comm]
    rw [List.range_succ_eq_map, List.flatMap_cons, List.flatMap_map]
    simp only [hk, ← List.drop_drop]
    rw [ih _ hd, Nat.zero_mul, List.drop_zero, List.take_append_drop]

/-- List pages, for any workflow selection, order and filter combination (including multi-value filters): with a positive
limit, the pages at offsets 0, limit, 2·limit, … enumerate exactly the matching runs in creation order (newest first
when descending) — nothing missing, nothing twice. -/
theorem C17_list_pages (s : Store) (wf : Option Nat) (desc : Bool) (f : Filter) (limit : Nat) (hl : 0 < limit) (n : Nat)
    (hn : (s.matching wf desc f).length ≤ n * limit) :
    (List.range n).flatMap (fun k => s.list wf (k * limit) limit desc f) = s.matching wf desc f := by
  unfold Store.list
  rw [if_neg (Nat.ne_of_gt hl)]
  exact pages_concat _ limit n hn

/-- descending = the ascending enumeration reversed (as a whole, not page by page) -/
theorem C17_desc_is_reverse (s : Store) (wf : Option Nat) (f : Filter) :
    s.matching wf true f = (s.matching wf false f).reverse := rfl

/-- the matching runs are exactly those that pass the workflow selection and every enabled filter -/
theorem C17_matching_mem (s : Store) (wf : Option Nat) (desc : Bool) (f : Filter) (r : SRec) :
    r ∈ s.matching wf desc f ↔ (r ∈ s.recs ∧ (∀ w, wf = some w → r.wf = w) ∧ f.matches r = true) := by
  unfold Store.matching
  cases desc <;> cases wf <;> simp

/-- Store appends exactly one outbox entry, for that record, and the record is what a lookup of its run ID then answers -/
theorem C17_store_one_entry (s : Store) (r : SRec) :
    (s.store r).outbox = s.outbox ++ [{ id := s.nextId, wf := r.wf, srec := r }] ∧ (s.store r).lookup r.rid = some r := by
  refine ⟨rfl, ?_⟩
  have key : ∀ l : List SRec, l.any (·.rid == r.rid) = true →
      (l.map (fun x => if x.rid == r.rid then r else x)).find? (·.rid == r.rid) = some r := by
    intro l h
    induction l with
    | nil => cases h
    | cons x xs ih =>
      rw [List.map_cons, List.find?_cons]
      cases hx : x.rid == r.rid with
      | true => simp
      | false =>
        rw [List.any_cons, hx, Bool.false_or] at h
        simp only [Bool.false_eq_true, if_false, hx]
        exact ih h
  unfold Store.store Store.lookup
  dsimp only
  split
  · rename_i h; exact key _ h
  · rename_i h
    rw [List.find?_append, List.find?_eq_none.mpr fun x hx hc => h (List.any_eq_true.mpr ⟨x, hx, hc⟩)]
    simp

/-- a new run becomes the latest of its (workflow, foreign ID). (That storing an OLDER run again does not change which run
is the latest - the defect of the unrepaired in-memory store, finding F3 - is shown by the closing example.) -/
theorem C17_latest_new_run (s : Store) (r : SRec) (hnew : s.recs.any (·.rid == r.rid) = false) :
    (s.store r).latest r.wf r.fid = some r := by
  simp [Store.store, Store.latest, hnew]

/-- the outbox lists undeleted entries of the workflow oldest first, at most `limit` (none for limit ≤ 0) -/
theorem C17_outbox_limit (s : Store) (wf : Nat) (limit : Int) :
    (s.listOutbox wf limit).length ≤ limit.toNat ∧ (s.listOutbox wf limit) <+: (s.outbox.filter (·.wf == wf)) := by
  unfold Store.listOutbox
  exact ⟨by rw [List.length_take]; exact Nat.min_le_left _ _, List.take_prefix _ _⟩

/-- deleting one outbox entry never affects another -/
theorem C17_delete_one (s : Store) (id : Nat) (e : OEntry) (h : e.id ≠ id) : e ∈ (s.deleteOutbox id).outbox ↔ e ∈ s.outbox := by
  simp [Store.deleteOutbox, h]

example : (({} : Store).store ⟨0, 0, 0, 1, 1, 5, 1⟩ |>.store ⟨0, 0, 1, 1, 1, 6, 1⟩ |>.store ⟨0, 0, 0, 7, 1, 5, 2⟩).latest 0 0
    = some ⟨0, 0, 1, 1, 1, 6, 1⟩ := by decide

end WorkflowModel.C17
