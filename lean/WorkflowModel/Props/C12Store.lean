import WorkflowModel.Model.Adapters.RefTimeouts
import WorkflowModel.Generated.Guards
/-! # C12 (store clauses) — the bundled timeout stores against the contract `RefTimeouts`

"list a timer as due exactly when it matches workflow and status, is neither completed nor cancelled and expired before
the queried instant (at the exact instant either answer is accepted), and cancelling or completing one timer — or an
unknown ID — never affects another". Laws of the contract; `memtimeoutstore` (and `sqltimeout`, C18) are tied to it by
the differential suites `mem-timeoutstore` / `sql-timeoutstore`. -/
namespace WorkflowModel.C12Store
open WorkflowModel.RefTimeouts

/-- the due listing, for both readings of "at the instant" -/
theorem mem_listValid (s : TStore) (wf : Nat) (status now : Int) (incl : Bool) (t : T) :
    t ∈ s.listValid wf status now incl ↔ (t ∈ s.ts ∧ t.wf = wf ∧ t.status = status ∧ t.completed = false ∧
      (t.expire < now ∨ incl = true ∧ t.expire = now)) := by
  simp [TStore.listValid, and_assoc]

theorem C12_due_iff (s : TStore) (wf : Nat) (status now : Int) (t : T) :
    t ∈ s.listValid wf status now false ↔ (t ∈ s.ts ∧ t.wf = wf ∧ t.status = status ∧ t.completed = false ∧ t.expire < now) := by
  simp [mem_listValid]

/-- at the exact instant either answer is accepted: the inclusive listing adds exactly the timers expiring AT `now` -/
theorem C12_due_incl_iff (s : TStore) (wf : Nat) (status now : Int) (t : T) :
    t ∈ s.listValid wf status now true ↔ (t ∈ s.ts ∧ t.wf = wf ∧ t.status = status ∧ t.completed = false ∧ t.expire ≤ now) := by
  simp [mem_listValid, Int.le_iff_lt_or_eq]

theorem complete_id (id : Nat) (u : T) : (if u.id = id then { u with completed := true } else u).id = u.id := by
  split <;> rfl

/-- an unknown ID changes nothing — for complete and for cancel -/
theorem C12_unknown_id_noop (s : TStore) (id : Nat) (h : ∀ t ∈ s.ts, t.id ≠ id) :
    s.complete id = s ∧ s.cancel id = s := by
  constructor
  · show ({ s with ts := s.ts.map _ } : TStore) = s
    rw [List.map_congr_left (g := fun t => t) fun t ht => if_neg (h t ht), List.map_id']
  · show ({ s with ts := s.ts.filter _ } : TStore) = s
    rw [List.filter_eq_self.mpr fun t ht => by simpa using h t ht]

/-- completing or cancelling one timer never affects another: every other timer is still there, unchanged -/
theorem C12_other_untouched (s : TStore) (id : Nat) (t : T) (ht : t.id ≠ id) :
    (t ∈ (s.complete id).ts ↔ t ∈ s.ts) ∧ (t ∈ (s.cancel id).ts ↔ t ∈ s.ts) := by
  constructor
  · constructor
    · intro h
      obtain ⟨u, hu, rfl⟩ := List.mem_map.mp h
      rw [complete_id] at ht
      rwa [if_neg ht]
    · exact fun h => List.mem_map.mpr ⟨t, h, if_neg ht⟩
  · simp [TStore.cancel, ht]

/-- a completed or cancelled timer is never listed as due again -/
theorem C12_never_again (s : TStore) (id : Nat) (wf : Nat) (status now : Int) (incl : Bool) :
    (∀ t ∈ (s.complete id).listValid wf status now incl, t.id ≠ id) ∧
    (∀ t ∈ (s.cancel id).listValid wf status now incl, t.id ≠ id) := by
  constructor
  · intro t ht
    obtain ⟨ht, _, _, hc, _⟩ := (mem_listValid _ _ _ _ _ _).mp ht
    obtain ⟨u, _, rfl⟩ := List.mem_map.mp ht
    rw [complete_id]
    intro hu
    rw [if_pos hu] at hc
    cases hc
  · intro t ht
    simpa using (List.mem_filter.mp ((mem_listValid _ _ _ _ _ _).mp ht).1).2

/-- IDs are unique and below the counter; `create`, `complete` and `cancel` keep that (`inv_*`) -/
def Inv (s : TStore) : Prop := (∀ t ∈ s.ts, t.id < s.next) ∧ s.ts.Pairwise (fun a b => a.id ≠ b.id)

theorem inv_init : Inv {} := ⟨List.forall_mem_nil _, List.Pairwise.nil⟩

theorem inv_create (s : TStore) (wf fid rid : Nat) (st ex : Int) (h : Inv s) : Inv (s.create wf fid rid st ex) := by
  refine ⟨fun t ht => ?_, List.pairwise_append.mpr ⟨h.2, List.pairwise_singleton _ _, fun a ha b hb => ?_⟩⟩
  · rcases List.mem_append.mp ht with ht | ht
    · exact Nat.lt_succ_of_lt (h.1 t ht)
    · cases List.mem_singleton.mp ht
      exact Nat.lt_succ_self _
  · cases List.mem_singleton.mp hb
    exact Nat.ne_of_lt (h.1 a ha)

theorem inv_complete (s : TStore) (id : Nat) (h : Inv s) : Inv (s.complete id) := by
  refine ⟨fun t ht => ?_, List.pairwise_map.mpr (h.2.imp fun hab => by rwa [complete_id, complete_id])⟩
  obtain ⟨u, hu, rfl⟩ := List.mem_map.mp ht
  rw [complete_id]
  exact h.1 u hu

theorem inv_cancel (s : TStore) (id : Nat) (h : Inv s) : Inv (s.cancel id) :=
  ⟨fun t ht => h.1 t (List.mem_filter.mp ht).1, h.2.sublist List.filter_sublist⟩

/-- regenerated tie (T2): memtimeoutstore's "not yet due" test, as extracted from the current source, skips exactly the
timers expiring after the queried instant (so it lists the inclusive variant) -/
theorem C12_tie_mem_due (e n : Int) : Gen.G.memTimeoutNotDue e n = false ↔ e ≤ n := by
  simp only [Gen.G.memTimeoutNotDue, decide_eq_false_iff_not]; omega

/-- non-vacuity: two timers, the first completed, the second due at 6 but not at 5 (strict) -/
example :
    let s := (({} : TStore).create 0 0 0 3 5).create 0 1 1 3 5 |>.complete 1
    (s.listValid 0 3 6 false).map (·.id) = [2] ∧ (s.listValid 0 3 5 false).map (·.id) = [] ∧
    (s.listValid 0 3 5 true).map (·.id) = [2] ∧ (s.cancel 99).ts.length = 2 := by decide

end WorkflowModel.C12Store
