import WorkflowModel.Lemmas.Shapes
import WorkflowModel.Props.Tie
/-! # C13 — Error-count pausing is exact; auto-retry waits the full resume interval

`maybePauseMem` is the model of `maybePause`; the counter is keyed by (error, process, run) — in the Go code by the
concatenation `err ++ process ++ "-" ++ runID`, which is injective on the triples a harness run produces (fixed-length
run IDs, process names that do not extend each other); the general key clash is recorded in DESIGN.md. The two tests
(`== 0`, `count < n`) and the retry consumer's tests are regenerated from pause.go. -/
namespace WorkflowModel.C13
open WorkflowModel Engine

/-- No count configured (n = 0): never paused, the counter is not even touched; the error goes back to the retry loop. -/
theorem C13_never_when_zero (cfg : Cfg) (p : Proc) (mem : Rec) (e : Abort) (env : Env) (st : OpSt) :
    maybePauseMem cfg 0 p mem e env st = (.ok (false, mem), st) := by
  simp [maybePauseMem, Gen.G.pauseDisabled, pure_run]

/-- Below the threshold: the occurrence is counted for exactly this (error, process, run), nothing is written. -/
theorem C13_below_threshold_counts (cfg : Cfg) (n : Int) (p : Proc) (mem : Rec) (e : Abort) (env : Env) (st : OpSt)
    (hn : n ≠ 0) (hlt : st.sys.count (abortTok e, p, mem.runId) + 1 < n) :
    maybePauseMem cfg n p mem e env st =
      (.ok (false, mem), { st with sys := st.sys.setCount (abortTok e, p, mem.runId) (st.sys.count (abortTok e, p, mem.runId) + 1) }) := by
  unfold maybePauseMem
  rw [if_neg (mt (pauseDisabled_iff n).mp hn)]
  dsimp only [bind_run, getSys, modifySys]
  rw [if_pos ((pauseBelowThreshold_iff _ _).mpr hlt)]
  rfl

/-- counting one key never changes the count of another (other run, other process, other error) -/
theorem C13_counts_independent (s : Sys) (k k' : Int × Proc × RunId) (v : Int) (h : k' ≠ k) :
    (s.setCount k v).count k' = s.count k' := by
  simp [Sys.count, Sys.setCount, lookup_assocSet, h]

/-- Reaching the threshold (the n-th occurrence of the same error in the same process on that run, n ≥ 1): the run is
paused through its controller — a Paused write with the next version — and the counter starts afresh at 0. Fault-free. -/
theorem pause_at_nth (cfg : Cfg) (n : Int) (p : Proc) (mem : Rec) (e : Abort) (env : Env) (st : OpSt)
    (hn : n ≠ 0) (hge : n ≤ st.sys.count (abortTok e, p, mem.runId) + 1) (hl : CallLive env st)
    (hallowed : RS.allowed mem.runState 3 = true) :
    let w : Rec := { mem with runState := 3, reason := 1, version := mem.version + 1 }
    (maybePauseMem cfg n p mem e env st).1 = .ok (true, w) ∧
    (maybePauseMem cfg n p mem e env st).2.sys.count (abortTok e, p, mem.runId) = 0 ∧
    (maybePauseMem cfg n p mem e env st).2.sys.runs =
      ((st.sys.setCount (abortTok e, p, mem.runId) (st.sys.count (abortTok e, p, mem.runId) + 1)).write cfg w).runs := by
  intro w
  -- the state after counting
  let st1 : OpSt := { st with sys := st.sys.setCount (abortTok e, p, mem.runId) (st.sys.count (abortTok e, p, mem.runId) + 1) }
  unfold maybePauseMem
  rw [if_neg (mt (pauseDisabled_iff n).mp hn)]
  dsimp only [bind_run, getSys, modifySys]
  rw [if_neg (mt (pauseBelowThreshold_iff _ _).mp (Int.not_lt.mpr hge)), bind_run,
    ctlUpdateMem_run_ok cfg mem .pause env st1 hallowed hl]
  refine ⟨rfl, count_setCount _ _ _, ?_⟩
  rw [← (store_run_ok cfg w env st1 hl).2.1]
  rfl

theorem C13_pause_at_nth (cfg : Cfg) (n : Int) (p : Proc) (mem : Rec) (e : Abort) (st : OpSt)
    (hn : n ≠ 0) (hge : n ≤ st.sys.count (abortTok e, p, mem.runId) + 1) (hc : st.cancelled = false)
    (hallowed : RS.allowed mem.runState 3 = true) :
    let w : Rec := { mem with runState := 3, reason := 1, version := mem.version + 1 }
    (maybePauseMem cfg n p mem e {} st).1 = .ok (true, w) ∧
    (maybePauseMem cfg n p mem e {} st).2.sys.count (abortTok e, p, mem.runId) = 0 ∧
    (maybePauseMem cfg n p mem e {} st).2.sys.runs =
      ((st.sys.setCount (abortTok e, p, mem.runId) (st.sys.count (abortTok e, p, mem.runId) + 1)).write cfg w).runs :=
  pause_at_nth cfg n p mem e {} st hn hge ⟨hc, rfl⟩ hallowed

/-- The paused-records retry consumer writes nothing unless the record it reads is still Paused and its last update lies the
full interval back on the workflow clock - in every environment. -/
theorem retryHandle_skips (cfg : Cfg) (e : Event) (env : Env) (st : OpSt) (record : Rec)
    (hread : (lookupRes st.sys e.runId st.stale).2 = some record)
    (h : record.runState ≠ 3 ∨ st.sys.now - cfg.retryAfterSec < record.updatedAt) :
    (retryHandle cfg e env st).2.sys = st.sys := by
  unfold retryHandle
  rcases lookup_bind e.runId _ env st with ⟨a, st', hl, hsys, _⟩ | ⟨st', hl, hsys, _⟩ <;> rw [hl]
  · exact hsys
  · rw [hread]
    dsimp only
    rcases h with h | h
    · rw [if_pos ((retryNotPaused_iff _).mpr h)]
      exact hsys
    · split
      · exact hsys
      · rw [bind_run, getSys]
        dsimp only
        rw [if_pos ((retryTooEarly_iff _ _ _).mpr (hsys ▸ h))]
        exact hsys

/-- The paused-records retry consumer (decision logic): resumes only a record that is still Paused … -/
theorem C13_retry_only_paused (cfg : Cfg) (e : Event) (env : Env) (st : OpSt) (record : Rec)
    (hread : (lookupRes st.sys e.runId st.stale).2 = some record) (hnp : record.runState ≠ 3) :
    (retryHandle cfg e env st).2.sys = st.sys :=
  retryHandle_skips cfg e env st record hread (Or.inl hnp)

/-- … and only once the full interval has elapsed on the workflow clock since the record's update time: earlier, nothing
is written (with a store that stamps the update time on every write — `cfg.stamp`, as the SQL store does — the update
time of a Paused record is the instant it was paused). -/
theorem C13_retry_waits (cfg : Cfg) (e : Event) (env : Env) (st : OpSt) (record : Rec)
    (hread : (lookupRes st.sys e.runId st.stale).2 = some record)
    (hearly : st.sys.now - cfg.retryAfterSec < record.updatedAt) :
    (retryHandle cfg e env st).2.sys = st.sys :=
  retryHandle_skips cfg e env st record hread (Or.inr hearly)

/-- It never revives a cancelled run: Resume is not allowed from Cancelled (and the still-paused test comes first). -/
theorem C13_never_revives_cancelled : RS.allowed 4 (RS.target .resume) = false := by decide

theorem C13_tie_order : Tie.maybePause = true ∧ Tie.autoRetry = true ∧ Tie.stepConsumer = true ∧ Tie.processTimeout = true :=
  ⟨beq_self_eq_true _, beq_self_eq_true _, beq_self_eq_true _, beq_self_eq_true _⟩

/-- non-vacuity: PauseAfterErrCount(2): first failure retried (not paused, not acked), second failure pauses and acks -/
example :
    let cfg : Cfg := { calls := [{ kind := .step, src := 1, dests := [2], pauseAfter := 2 }], backoffSec := 1 }
    let pre : List Act := [.trigger 0 0 7 {}, .step .outbox {}, .step (.step 1 1 1) {}]
    let s1 := runActs cfg {} (pre ++ [.step (.step 1 1 1) { outcomes := [.err 0] }])
    let s2 := runActs cfg s1 [.tick 1, .step (.step 1 1 1) {}, .step (.step 1 1 1) {}, .step (.step 1 1 1) { outcomes := [.err 0] }]
    (s1.cur 0).map (·.runState) = some 1 ∧ s1.cursor (.step 1 1 1) = 0 ∧
    (s2.cur 0).map (·.runState) = some 3 ∧ s2.cursor (.step 1 1 1) = 1 := by
  decide +kernel

end WorkflowModel.C13
