import WorkflowModel.Lemmas.Shapes
import WorkflowModel.Props.C03Engine
import WorkflowModel.Props.Tie
/-! # C12 (engine part) — Timeouts fire only for their own run, once due, while it still waits there

`pollOp`/`pollTimer`/`pollGate` model `pollTimeouts` (since the repair of F10 the run is re-read by the timer's RUN ID),
`processTimeout` one timeout configuration, `inserterFn` the timer function wrapper of the inserter. `dueTimers` is what the
reference timeout store's `ListValid` answers; the bundled stores are tied to it by their own suites (C12 stores). -/
namespace WorkflowModel.C12
open WorkflowModel Engine

/-- `ListValid`: a timer is listed exactly when it is of the status, not completed, and its expiry is not after the
queried instant (cancelled timers are removed from the store). -/
theorem C12_listed_iff (s : Sys) (status : Status) (q : Int) (t : Timer) :
    t ∈ dueTimers s status q ↔ (t ∈ s.timers ∧ t.status = status ∧ t.completed = false ∧ t.expireAt ≤ q) := by
  unfold dueTimers Gen.G.memTimeoutNotDue
  simp only [List.mem_filter, Bool.and_eq_true, beq_iff_eq, Bool.not_eq_true', decide_eq_false_iff_not, Int.not_lt, and_assoc]

/-- The poller's guard on the re-read run: a timeout function can only be reached when the run is still at the timer's
status and is neither finished nor stopped. In every other case the timer is cancelled or skipped (C08). -/
theorem C12_invocation_guard (cfg : Cfg) (p : Proc) (status : Status) (t : Timer) (r : Rec) (env : Env) (st : OpSt)
    (hrun : pollGate cfg p status t r env st ≠ (.ok (), st) ∧
            pollGate cfg p status t r env st ≠ call s!"tcancel({t.id})" (fun s => ("", .ok (), s.timerCancel t.id)) env st) :
    r.status = status ∧ Gen.finished r.runState = false ∧ Gen.stopped r.runState = false := by
  unfold pollGate at hrun
  by_cases h1 : Gen.G.pollCancel r.status status r.runState = true
  · rw [if_pos h1] at hrun
    exact absurd rfl hrun.2
  · by_cases h2 : Gen.G.pollSkipStopped r.runState = true
    · rw [if_neg h1, if_pos h2] at hrun
      exact absurd rfl hrun.1
    · rw [pollCancel_iff, not_or, Decidable.not_not, Bool.not_eq_true] at h1
      exact ⟨h1.1, h1.2, Bool.not_eq_true _ ▸ h2⟩

/-- The run that is re-read — and handed to the timeout function — is the timer's own run: the lookup is by `t.runId`. -/
theorem C12_own_run (cfg : Cfg) (p : Proc) (status : Status) (t : Timer) (env : Env) (st : OpSt) :
    pollTimer cfg p status t env st =
      match lookup t.runId env st with
      | (.ok none, st') => (.error (.err errNotFound), st')
      | (.ok (some r), st') => pollGate cfg p status t r env st'
      | (.error a, st') => (.error a, st') := by
  unfold pollTimer
  rw [bind_run]
  rcases lookup t.runId env st with ⟨_ | _ | _, _⟩ <;> rfl

/-- A run that has moved on or finished: the timer is cancelled — exactly that timer, by ID — and nothing is invoked. -/
theorem C12_moved_on_cancelled (cfg : Cfg) (p : Proc) (status : Status) (t : Timer) (r : Rec) (env : Env) (st : OpSt)
    (h : r.status ≠ status ∨ Gen.finished r.runState = true) :
    pollGate cfg p status t r env st = call s!"tcancel({t.id})" (fun s => ("", .ok (), s.timerCancel t.id)) env st := by
  unfold pollGate
  rw [if_pos ((pollCancel_iff ..).mpr h)]

/-- Cancelling or completing one timer never affects another (the reference store acts on exactly the given ID). -/
theorem C12_cancel_complete_one (s : Sys) (id : Nat) (t : Timer) (hne : t.id ≠ id) :
    (t ∈ (s.timerCancel id).timers ↔ t ∈ s.timers) ∧ (t ∈ (s.timerComplete id).timers ↔ t ∈ s.timers) := by
  constructor
  · unfold Sys.timerCancel
    rw [List.mem_filter, bne_iff_ne]
    exact and_iff_left hne
  · unfold Sys.timerComplete
    rw [List.mem_map]
    constructor
    · rintro ⟨x, hx, rfl⟩
      by_cases hxi : x.id = id
      · rw [if_pos hxi] at hne
        exact absurd hxi hne
      · rw [if_neg hxi]
        exact hx
    · exact fun ht => ⟨t, ht, if_neg hne⟩

/-- Complete marks the timer with the given ID completed. (`processTimeout` calls it with its own timer's ID, and only
after the updater returned without error: `C12_complete_only_after_update`.) -/
theorem C12_completed_after_update (s : Sys) (id : Nat) (t : Timer) (h : t ∈ s.timers) (hid : t.id = id) :
    { t with completed := true } ∈ (s.timerComplete id).timers := by
  unfold Sys.timerComplete
  exact List.mem_map.mpr ⟨t, h, if_pos hid⟩

/-- … and a completed timer is never listed again. -/
theorem C12_completed_never_again (s : Sys) (status : Status) (q : Int) (t : Timer) (hc : t.completed = true) :
    t ∉ dueTimers s status q := by
  intro h
  have := (C12_listed_iff s status q t).mp h
  simp [hc] at this

/-- A timer is created only by the inserter's handling of a timer function's answer, for the run whose arrival is being
handled and the inserter's status, and only for a non-zero time: the zero time creates nothing, an error creates nothing. -/
theorem C12_created_only_non_zero (status : Status) (run : Rec) (now : Int) (out : Outcome) (env : Env) (st : OpSt)
    (h : ∀ sec, out ≠ .timer sec) : (inserterOutcome status run now out env st).2.sys = st.sys := by
  cases out <;> first | rfl | exact absurd rfl (h _)

/-- … and for a non-zero time exactly one timer, of that run and status, expiring at the returned instant. -/
theorem created_timer (status : Status) (run : Rec) (now sec : Int) (env : Env) (st : OpSt) (hl : CallLive env st) :
    (inserterOutcome status run now (.timer sec) env st).2.sys.timers =
      st.sys.timers ++ [{ id := st.sys.timerN + 1, fid := run.fid, runId := run.runId, status := status, expireAt := st.sys.now + sec }] := by
  simp [inserterOutcome, Engine.call, hl.1, hl.2, Sys.timerCreate]

theorem C12_created_timer (status : Status) (run : Rec) (sec : Int) (st : OpSt) (hc : st.cancelled = false) :
    (inserterOutcome status run st.sys.now (.timer sec) {} st).2.sys.timers =
      st.sys.timers ++ [{ id := st.sys.timerN + 1, fid := run.fid, runId := run.runId, status := status, expireAt := st.sys.now + sec }] :=
  created_timer status run st.sys.now sec {} st ⟨hc, rfl⟩

/-- the updater writes a record or nothing: it never touches the timers -/
theorem updater_timers (cfg : Cfg) (current next : Status) (run : Rec) (o : Obj) (env : Env) (st : OpSt) :
    (updater cfg current next run o env st).2.sys.timers = st.sys.timers := by
  rcases C03.C03_updater_writes_only_that cfg current next run o env st with h | h <;> rw [h] <;> rfl

/-- A TIMER IS MARKED COMPLETED ONLY AFTER ITS TRANSITION WAS PERSISTED: in the tail of `processTimeout` (updater, then
Complete), if the updater fails — validation, lookup or the store itself, any fault plan — the timers are exactly what
they were (the timer stays due and the timeout is retried on a later poll), and the failure is returned. -/
theorem updater_failure_ends (cfg : Cfg) (current next : Status) (run : Rec) (o : Obj) {α : Type} (k : Unit → M α)
    (env : Env) (st : OpSt) (a : Abort) (h : (updater cfg current next run o env st).1 = .error a) :
    ((updater cfg current next run o >>= k) env st).2.sys.timers = st.sys.timers ∧
    ((updater cfg current next run o >>= k) env st).1 = .error a := by
  have ht := updater_timers cfg current next run o env st
  rw [bind_run]
  rcases hu : updater cfg current next run o env st with ⟨x, st'⟩
  rw [hu] at h ht
  cases h
  exact ⟨ht, rfl⟩

theorem C12_complete_only_after_update (cfg : Cfg) (t : Timer) (next : Status) (run mem : Rec) (o : Obj) (env : Env) (st : OpSt) (a : Abort)
    (h : (updater cfg t.status next run o env st).1 = .error a) :
    let r := ((do updater cfg t.status next run o
                  call s!"tcomplete({t.id})" (fun s => ("", .ok (), s.timerComplete t.id))
                  pure mem : M Rec) env st)
    r.2.sys.timers = st.sys.timers ∧ r.1 = .error a :=
  updater_failure_ends cfg t.status next run o _ env st a h

theorem C12_tie_order : Tie.pollTimeouts = true ∧ Tie.processTimeout = true ∧ Tie.inserter = true :=
  ⟨beq_self_eq_true _, beq_self_eq_true _, beq_self_eq_true _⟩

/-- non-vacuity: timer created on arrival (+60 s), not listed at 59 s, fires at 60 s for its own run, completed afterwards -/
example :
    let cfg : Cfg := { calls := [{ kind := .timeout, src := 1, dests := [2] }] }
    let pre : List Act := [.trigger 0 0 7 {}, .step .outbox {}, .step (.inserter 1) {}, .step (.inserter 1) { outcomes := [.timer 60] },
      .step (.poller 1) {}]
    let s1 := runActs cfg {} (pre ++ [.tick 59, .step (.poller 1) { outcomes := [.ret 2 8] }, .step (.poller 1) { outcomes := [.ret 2 8] }])
    let s2 := runActs cfg s1 [.tick 1, .step (.poller 1) { outcomes := [.ret 2 8] }, .step (.poller 1) { outcomes := [.ret 2 9] }]
    (s1.cur 0).map (·.status) = some 1 ∧ (s2.cur 0).map (fun r => (r.status, r.obj)) = some (2, 9) ∧
      s2.timers.map (·.completed) = [true] := by
  decide +kernel

end WorkflowModel.C12
