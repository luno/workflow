import WorkflowModel.Props.C20
import WorkflowModel.Props.Tie
#print axioms WorkflowModel.C20.next_spec
#print axioms WorkflowModel.C20.wake_cases
#print axioms WorkflowModel.C20.C20_created_not_before_deadline
#print axioms WorkflowModel.C20.C20_deadline_after_latest
#print axioms WorkflowModel.C20.C20_no_run_unless
#print axioms WorkflowModel.C20.inv_init
#print axioms WorkflowModel.C20.Inv.le_latest
#print axioms WorkflowModel.C20.inv_park
#print axioms WorkflowModel.C20.inv_lose
#print axioms WorkflowModel.C20.inv_wake
#print axioms WorkflowModel.C20.inv_finish
#print axioms WorkflowModel.C20.reachable
#print axioms WorkflowModel.C20.reachable_inv
#print axioms WorkflowModel.C20.ticks_apply
#print axioms WorkflowModel.C20.ticks_foldl
#print axioms WorkflowModel.C20.C20_one_run_per_tick
#print axioms WorkflowModel.C20.C20_tie_order
