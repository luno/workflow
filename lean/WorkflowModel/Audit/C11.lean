import WorkflowModel.Props.C11
import WorkflowModel.Props.C11Roles
import WorkflowModel.Props.Tie
#print axioms WorkflowModel.C11.payload_setPState
#print axioms WorkflowModel.C11.C11_lease_loss_frame
#print axioms WorkflowModel.C11.C11_lease_loss_needs_role
#print axioms WorkflowModel.C11.C11_failure_retries
#print axioms WorkflowModel.C11.backoff_then_role
#print axioms WorkflowModel.C11.C11_backoff_then_role
#print axioms WorkflowModel.C11.C11_never_dead
#print axioms WorkflowModel.C11.C11_tie_order
#print axioms WorkflowModel.C11Roles.exclusive_init
#print axioms WorkflowModel.C11Roles.exclusive_step
#print axioms WorkflowModel.C11Roles.C11_roles_exclusive
#print axioms WorkflowModel.C11Roles.C11_grant_refused_while_held
#print axioms WorkflowModel.C11Roles.holder_unique
#print axioms WorkflowModel.C11Roles.C11_finish_frees
