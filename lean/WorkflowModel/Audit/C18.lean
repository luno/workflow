import WorkflowModel.Props.C18
import WorkflowModel.Props.C17
import WorkflowModel.Props.C12Store
import WorkflowModel.Props.Tie
#print axioms WorkflowModel.C18.runTx_atomic
#print axioms WorkflowModel.C18.sqlStore_eq
#print axioms WorkflowModel.C18.C18_store_atomic
#print axioms WorkflowModel.C18.C18_store_ok_iff
#print axioms WorkflowModel.C18.C18_failure_commits_nothing
#print axioms WorkflowModel.C18.count_append
#print axioms WorkflowModel.C18.placeholders_orJoin
#print axioms WorkflowModel.C18.placeholders_join
#print axioms WorkflowModel.C18.wbinv_init
#print axioms WorkflowModel.C18.wbinv_step
#print axioms WorkflowModel.C18.wbinv_ops
#print axioms WorkflowModel.C18.balanced_bind
#print axioms WorkflowModel.C18.finalise_balanced
#print axioms WorkflowModel.C18.C18_placeholders_balanced
#print axioms WorkflowModel.C18.columns_clean
#print axioms WorkflowModel.C18.C18_list_balanced
#print axioms WorkflowModel.C18.C18_tie_order
#print axioms WorkflowModel.C17.pages_concat
#print axioms WorkflowModel.C17.C17_list_pages
#print axioms WorkflowModel.C17.C17_desc_is_reverse
#print axioms WorkflowModel.C17.C17_matching_mem
#print axioms WorkflowModel.C17.C17_store_one_entry
#print axioms WorkflowModel.C17.C17_latest_new_run
#print axioms WorkflowModel.C17.C17_outbox_limit
#print axioms WorkflowModel.C17.C17_delete_one
#print axioms WorkflowModel.C12Store.mem_listValid
#print axioms WorkflowModel.C12Store.C12_due_iff
#print axioms WorkflowModel.C12Store.C12_due_incl_iff
#print axioms WorkflowModel.C12Store.complete_id
#print axioms WorkflowModel.C12Store.C12_unknown_id_noop
#print axioms WorkflowModel.C12Store.C12_other_untouched
#print axioms WorkflowModel.C12Store.C12_never_again
#print axioms WorkflowModel.C12Store.inv_init
#print axioms WorkflowModel.C12Store.inv_create
#print axioms WorkflowModel.C12Store.inv_complete
#print axioms WorkflowModel.C12Store.inv_cancel
#print axioms WorkflowModel.C12Store.C12_tie_mem_due
