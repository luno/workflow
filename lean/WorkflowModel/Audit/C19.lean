import WorkflowModel.Props.C19
import WorkflowModel.Props.Tie
#print axioms WorkflowModel.C19.nextFrom_spec
#print axioms WorkflowModel.C19.nextFrom_complete
#print axioms WorkflowModel.C19.nextFrom_hit
#print axioms WorkflowModel.C19.position_setPos
#print axioms WorkflowModel.C19.lookup_filter_ne
#print axioms WorkflowModel.C19.position_setPos_ne
#print axioms WorkflowModel.C19.start_of_stored
#print axioms WorkflowModel.C19.start_of_floor
#print axioms WorkflowModel.C19.start_setPos
#print axioms WorkflowModel.C19.start_materialise
#print axioms WorkflowModel.C19.start_moveTo
#print axioms WorkflowModel.C19.log_moveTo
#print axioms WorkflowModel.C19.other_moveTo
#print axioms WorkflowModel.C19.recv_fst
#print axioms WorkflowModel.C19.recv_eq_some
#print axioms WorkflowModel.C19.C19_delivery_in_order
#print axioms WorkflowModel.C19.C19_no_block_when_available
#print axioms WorkflowModel.C19.C19_redelivered_until_ack
#print axioms WorkflowModel.C19.start_of_position
#print axioms WorkflowModel.C19.C19_from_latest_ignored
#print axioms WorkflowModel.C19.C19_no_redelivery_after_ack
#print axioms WorkflowModel.C19.C19_names_independent_ack
#print axioms WorkflowModel.C19.C19_names_independent_recv
#print axioms WorkflowModel.C19.recv_congr
#print axioms WorkflowModel.C19.sends_eq
#print axioms WorkflowModel.C19.C19_from_latest
#print axioms WorkflowModel.C19.C19_send_appends
#print axioms WorkflowModel.C19.C19_tie_guards
