import WorkflowModel.Props.C07
import WorkflowModel.Props.Tie
#print axioms WorkflowModel.C07.C07_failure_no_ack
#print axioms WorkflowModel.C07.C07_ack_after_ok
#print axioms WorkflowModel.C07.ack_effect
#print axioms WorkflowModel.C07.C07_ack_effect
#print axioms WorkflowModel.C07.C07_failure_backoff
#print axioms WorkflowModel.C07.lag_waits
#print axioms WorkflowModel.C07.C07_lag_waits
#print axioms WorkflowModel.C07.C07_lag_release
#print axioms WorkflowModel.C07.no_lag_delivers
#print axioms WorkflowModel.C07.C07_no_lag_delivers
#print axioms WorkflowModel.C07.C07_all_consumers
#print axioms WorkflowModel.C07.C07_tie_order
