import WorkflowModel.Props.C13
import WorkflowModel.Props.Tie
#print axioms WorkflowModel.C13.C13_never_when_zero
#print axioms WorkflowModel.C13.C13_below_threshold_counts
#print axioms WorkflowModel.C13.C13_counts_independent
#print axioms WorkflowModel.C13.pause_at_nth
#print axioms WorkflowModel.C13.C13_pause_at_nth
#print axioms WorkflowModel.C13.retryHandle_skips
#print axioms WorkflowModel.C13.C13_retry_only_paused
#print axioms WorkflowModel.C13.C13_retry_waits
#print axioms WorkflowModel.C13.C13_never_revives_cancelled
#print axioms WorkflowModel.C13.C13_tie_order
