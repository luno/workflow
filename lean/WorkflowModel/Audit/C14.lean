import WorkflowModel.Props.C14
import WorkflowModel.Props.Tie
#print axioms WorkflowModel.C14.C14_only_own_state
#print axioms WorkflowModel.C14.on_rsc_topic
#print axioms WorkflowModel.C14.C14_hooked_states_on_rsc_topic
#print axioms WorkflowModel.C14.C14_retry_until_nil
#print axioms WorkflowModel.C14.C14_failed_hook_never_acked
#print axioms WorkflowModel.C14.deleted_data_skipped
#print axioms WorkflowModel.C14.C14_deleted_data_skipped
#print axioms WorkflowModel.C14.C14_hook_never_writes
#print axioms WorkflowModel.C14.C14_tie_order
