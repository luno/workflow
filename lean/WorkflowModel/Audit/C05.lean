import WorkflowModel.Props.C05
import WorkflowModel.Props.Tie
#print axioms WorkflowModel.C05.C05_store_one_entry
#print axioms WorkflowModel.C05.C05_inv
#print axioms WorkflowModel.C05.C05_cycle_any_fault
#print axioms WorkflowModel.C05.removed_only_after_send
#print axioms WorkflowModel.C05.C05_removed_only_after_send
#print axioms WorkflowModel.C05.failure_changes_nothing
#print axioms WorkflowModel.C05.C05_failure_keeps_entry
#print axioms WorkflowModel.C05.C05_progress_one
#print axioms WorkflowModel.C05.C05_tie_order
