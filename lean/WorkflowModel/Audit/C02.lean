import WorkflowModel.Props.C02Graph
import WorkflowModel.Props.C02Engine
import WorkflowModel.Props.History
import WorkflowModel.Props.Tie
#print axioms WorkflowModel.C02.C02_transitions_are_declared
#print axioms WorkflowModel.C02.C02_valid_iff_declared
#print axioms WorkflowModel.C02.C02_transitions_perm
#print axioms WorkflowModel.C02.C03_terminal_perm
#print axioms WorkflowModel.C02.C03_terminal_no_transitions
#print axioms WorkflowModel.C02.C02_validate_iff_declared
#print axioms WorkflowModel.C02.C02_updater_declared
#print axioms WorkflowModel.C02.C02_undeclared_no_write
#print axioms WorkflowModel.C02.C02_skip_values
#print axioms WorkflowModel.C02.C02_trigger_start_declared
#print axioms WorkflowModel.C02.C02_tie_order
#print axioms WorkflowModel.History.stepAct_inv
#print axioms WorkflowModel.History.history_inv
#print axioms WorkflowModel.History.history_mirrors
#print axioms WorkflowModel.History.chain_drop
#print axioms WorkflowModel.History.chain_from
#print axioms WorkflowModel.History.chain_head_version
#print axioms WorkflowModel.History.chain_adjacent
#print axioms WorkflowModel.History.chain_last
#print axioms WorkflowModel.History.chain_version
#print axioms WorkflowModel.History.chain_version_inj
#print axioms WorkflowModel.History.reachable_run
#print axioms WorkflowModel.History.reachable_edge
#print axioms WorkflowModel.History.C03_lifecycle_path
#print axioms WorkflowModel.History.C03_first_write_initiated
#print axioms WorkflowModel.History.C03_finished_stays_finished
#print axioms WorkflowModel.History.C02_status_path
#print axioms WorkflowModel.History.C02_first_status_declared
#print axioms WorkflowModel.History.C16_versions
#print axioms WorkflowModel.History.C16_identity_and_object
#print axioms WorkflowModel.History.not_live_run_unchanged
#print axioms WorkflowModel.History.C08_stopped_run_unchanged
#print axioms WorkflowModel.History.C15_deleted_only_after_request
#print axioms WorkflowModel.History.C03_completed_at_terminal
#print axioms WorkflowModel.History.C09_one_unfinished_run
#print axioms WorkflowModel.History.C01_no_effect_twice
#print axioms WorkflowModel.History.C01_step_ack_means_handled
#print axioms WorkflowModel.History.C15_ack_means_deleted
#print axioms WorkflowModel.History.C05_relay_with_history
#print axioms WorkflowModel.History.current_announcement_describes_head
#print axioms WorkflowModel.History.C04_current_announcement_describes_head
#print axioms WorkflowModel.History.oneTimeout_cfgW
#print axioms WorkflowModel.History.fresh_asFresh
#print axioms WorkflowModel.History.nonvacuous_fresh
#print axioms WorkflowModel.History.nonvacuous_two_runs
#print axioms WorkflowModel.History.illegal_of_histOK_false
#print axioms WorkflowModel.History.stale_handle_breaks_history
#print axioms WorkflowModel.History.stale_read_breaks_history
#print axioms WorkflowModel.History.reentry_breaks_history
#print axioms WorkflowModel.History.two_timeouts_break_history
#print axioms WorkflowModel.History.freshAct_of_2
#print axioms WorkflowModel.History.stepAct_tok
#print axioms WorkflowModel.History.token_inv
#print axioms WorkflowModel.History.C01_no_stranded_step
#print axioms WorkflowModel.History.C01_waiting_run_keeps_consumer_enabled
#print axioms WorkflowModel.History.C01_tokOK
#print axioms WorkflowModel.History.C15_no_stranded_request
#print axioms WorkflowModel.History.nonvacuous_token
#print axioms WorkflowModel.History.skip_leaves_nothing_pending
