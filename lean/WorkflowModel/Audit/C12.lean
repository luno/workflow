import WorkflowModel.Props.C12
import WorkflowModel.Props.C12Store
import WorkflowModel.Props.Tie
#print axioms WorkflowModel.C12.C12_listed_iff
#print axioms WorkflowModel.C12.C12_invocation_guard
#print axioms WorkflowModel.C12.C12_own_run
#print axioms WorkflowModel.C12.C12_moved_on_cancelled
#print axioms WorkflowModel.C12.C12_cancel_complete_one
#print axioms WorkflowModel.C12.C12_completed_after_update
#print axioms WorkflowModel.C12.C12_completed_never_again
#print axioms WorkflowModel.C12.C12_created_only_non_zero
#print axioms WorkflowModel.C12.created_timer
#print axioms WorkflowModel.C12.C12_created_timer
#print axioms WorkflowModel.C12.updater_timers
#print axioms WorkflowModel.C12.updater_failure_ends
#print axioms WorkflowModel.C12.C12_complete_only_after_update
#print axioms WorkflowModel.C12.C12_tie_order
#print axioms WorkflowModel.C12Store.mem_listValid
#print axioms WorkflowModel.C12Store.C12_due_iff
#print axioms WorkflowModel.C12Store.C12_due_incl_iff
#print axioms WorkflowModel.C12Store.complete_id
#print axioms WorkflowModel.C12Store.C12_unknown_id_noop
#print axioms WorkflowModel.C12Store.C12_other_untouched
#print axioms WorkflowModel.C12Store.C12_never_again
#print axioms WorkflowModel.C12Store.inv_init
#print axioms WorkflowModel.C12Store.inv_create
#print axioms WorkflowModel.C12Store.inv_complete
#print axioms WorkflowModel.C12Store.inv_cancel
#print axioms WorkflowModel.C12Store.C12_tie_mem_due
