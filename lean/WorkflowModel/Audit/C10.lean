import WorkflowModel.Props.C10Shard
import WorkflowModel.Props.C10Launch
import WorkflowModel.Props.C10Roles
import WorkflowModel.Props.Tie
#print axioms WorkflowModel.C10.shardOut_false_iff
#print axioms WorkflowModel.C10.posMod_range
#print axioms WorkflowModel.C10.shard_partition
#print axioms WorkflowModel.C10.C10_shard_partition
#print axioms WorkflowModel.C10.C10_single_shard
#print axioms WorkflowModel.C10.C10_tie_launch_and_roles
#print axioms WorkflowModel.C10Launch.shards_le
#print axioms WorkflowModel.C10Launch.loop_unit
#print axioms WorkflowModel.C10Launch.C10_step_unit
#print axioms WorkflowModel.C10Launch.C10_conn_unit
#print axioms WorkflowModel.C10Launch.oneToN_nodup
#print axioms WorkflowModel.C10Launch.mem_oneToN
#print axioms WorkflowModel.C10Launch.C10_unit_count
#print axioms WorkflowModel.C10Launch.unit_nodup
#print axioms WorkflowModel.C10Launch.mem_unit
#print axioms WorkflowModel.C10Launch.nodup_flatMap
#print axioms WorkflowModel.C10Launch.nodup_append_tag
#print axioms WorkflowModel.C10Launch.units_block
#print axioms WorkflowModel.C10Launch.C10_launched_once
#print axioms WorkflowModel.C10Launch.C10_tie_launch
#print axioms WorkflowModel.C10Roles.makeRole_eq
#print axioms WorkflowModel.C10Roles.G_append
#print axioms WorkflowModel.C10Roles.g_dash
#print axioms WorkflowModel.C10Roles.G_intDec
#print axioms WorkflowModel.C10Roles.makeRole_cons
#print axioms WorkflowModel.C10Roles.makeRole_one
#print axioms WorkflowModel.C10Roles.G_literals
#print axioms WorkflowModel.C10Roles.role_split
#print axioms WorkflowModel.C10Roles.keyOf_inj
#print axioms WorkflowModel.C10Roles.keyOf_dash
#print axioms WorkflowModel.C10Roles.tag_lt
#print axioms WorkflowModel.C10Roles.hook_names
#print axioms WorkflowModel.C10Roles.consumer_dash
#print axioms WorkflowModel.C10Roles.last_dash
#print axioms WorkflowModel.C10Roles.last_field_inj
#print axioms WorkflowModel.C10Roles.two_fields_inj
#print axioms WorkflowModel.C10Roles.shard_inj
#print axioms WorkflowModel.C10Roles.stem_inj
#print axioms WorkflowModel.C10Roles.stem_ne
#print axioms WorkflowModel.C10Roles.role_inj
#print axioms WorkflowModel.C10Roles.launches_wf
#print axioms WorkflowModel.C10Roles.inj_of_nodup_map
#print axioms WorkflowModel.C10Roles.role_names_distinct
#print axioms WorkflowModel.C10Roles.C10_role_names_distinct
