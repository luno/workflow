import WorkflowModel.Props.C17
import WorkflowModel.Props.Tie
#print axioms WorkflowModel.C17.pages_concat
#print axioms WorkflowModel.C17.C17_list_pages
#print axioms WorkflowModel.C17.C17_desc_is_reverse
#print axioms WorkflowModel.C17.C17_matching_mem
#print axioms WorkflowModel.C17.C17_store_one_entry
#print axioms WorkflowModel.C17.C17_latest_new_run
#print axioms WorkflowModel.C17.C17_outbox_limit
#print axioms WorkflowModel.C17.C17_delete_one
