import WorkflowModel.Model.Basic
import WorkflowModel.Model.RunState
import WorkflowModel.Model.Routing
import WorkflowModel.Model.Graph
/-! # Engine: the executable model of the workflow engine at adapter-call granularity

One `Act` = one API call, one operation of one background process (gate to gate), or one environment move.
Inside an operation every adapter call consults the fault plan (`Env.faults`, indexed by adapter-call number):
error before the effect, error after the effect, cancel (crash / lease loss). User functions are parameters:
their outcomes come from `Env.outcomes`. Guards come from `Generated/Guards.lean` (i.e. from the current source);
the run-state table, `Finished/Stopped/Valid`, routing sets and skip sentinels from `Generated/Facts.lean`.

Every effect on `Sys` goes through one of the primitives of section "primitives"; invariants are proved per
primitive (`Lemmas/Stable.lean`: `StableH`, `Stable`). Time is in whole seconds from the simulator epoch. -/
namespace WorkflowModel.Engine
open WorkflowModel

/-! ## configuration -/

inductive CallKind | step | callback | timeout
deriving DecidableEq, Repr, Inhabited

structure BuilderCall where
  kind : CallKind
  src : Status
  dests : List Status
  parallel : Int := 0
  lagSec : Int := 0
  pauseAfter : Int := 0
deriving Repr, Inhabited

structure Cfg where
  calls : List BuilderCall := []
  hooks : List RunState := []
  customDelete : Bool := false
  defParallel : Int := 0
  defPauseAfter : Int := 0
  defLagSec : Int := 0
  backoffSec : Int := 1
  outboxLimit : Int := 1000
  retryEnabled : Bool := false
  retryAfterSec : Int := 3600
  stamp : Bool := false
deriving Repr, Inhabited

def Cfg.edges (c : Cfg) : List (Int × Int) := c.calls.flatMap (fun b => b.dests.map (fun d => (b.src, d)))
def Cfg.graph (c : Cfg) : Graph.G := Graph.build c.edges
def Cfg.stepAt (c : Cfg) (s : Status) : Option BuilderCall := c.calls.find? (fun b => b.kind == .step && b.src == s)
def Cfg.callbacksAt (c : Cfg) (s : Status) : List BuilderCall := c.calls.filter (fun b => b.kind == .callback && b.src == s)
def Cfg.timeoutsAt (c : Cfg) (s : Status) : List BuilderCall := c.calls.filter (fun b => b.kind == .timeout && b.src == s)
/-- `WithOptions` on a timeout writes the status-wide struct: the last non-zero value wins -/
def Cfg.timeoutPauseOwn (c : Cfg) (s : Status) : Int :=
  (c.timeoutsAt s).foldl (fun acc b => if b.pauseAfter != 0 then b.pauseAfter else acc) 0
def pickOwn (own dflt : Int) : Int := if own != 0 then own else dflt
def Cfg.stepPauseAfter (c : Cfg) (s : Status) : Int := pickOwn ((c.stepAt s).map (·.pauseAfter) |>.getD 0) c.defPauseAfter
def Cfg.timeoutPauseAfter (c : Cfg) (s : Status) : Int := pickOwn (c.timeoutPauseOwn s) c.defPauseAfter
def Cfg.stepLag (c : Cfg) (s : Status) : Int :=
  let own := (c.stepAt s).map (·.lagSec) |>.getD 0
  if own > 0 then own else c.defLagSec

/-! ## processes -/

/-- a background process, identified by its canonical token -/
inductive Proc
  | outbox
  | step (s : Status) (shard total : Int)
  | inserter (s : Status)
  | poller (s : Status)
  | hook (rs : RunState)
  | delete
  | retry
deriving DecidableEq, Repr, Inhabited

def Proc.tok : Proc → String
  | .outbox => "ob"
  | .step s i n => s!"st:{s}:{i}:{n}"
  | .inserter s => s!"ins:{s}"
  | .poller s => s!"pol:{s}"
  | .hook rs => s!"hk:{rs}"
  | .delete => "del"
  | .retry => "rty"

/-- where a process is parked -/
inductive PState
  | needRole
  | atRecv
  | lagWait (ev : Nat) (until_ : Int)
  | backoff (until_ : Int)
  | atPoll (since : Int)   -- `ListValid(ctx, name, status, clock.Now())`: the instant was read when the process parked
deriving DecidableEq, Repr, Inhabited

/-! ## system state -/

structure RunS where
  fid : Fid
  hist : List Rec   -- newest first
deriving Repr, Inhabited

structure OutE where
  ord : Nat
  ev : Event
deriving Repr, Inhabited, DecidableEq

structure Sys where
  runs : List RunS := []
  outbox : List OutE := []
  outN : Nat := 0
  log : List Event := []
  cursors : List (Proc × Nat) := []
  timers : List Timer := []
  timerN : Nat := 0
  counts : List ((Int × Proc × RunId) × Int) := []
  now : Int := 0
  pst : List (Proc × PState) := []
  handles : List (RunId × Rec) := []
deriving Repr, Inhabited

def Sys.cur (s : Sys) (rid : RunId) : Option Rec := (s.runs[rid]?).bind (·.hist.head?)
def Sys.cursor (s : Sys) (p : Proc) : Nat := (s.cursors.lookup p).getD 0
def Sys.pstate (s : Sys) (p : Proc) : PState := (s.pst.lookup p).getD .needRole
def Sys.count (s : Sys) (k : Int × Proc × RunId) : Int := (s.counts.lookup k).getD 0

def assocSet {α β} [BEq α] (l : List (α × β)) (k : α) (v : β) : List (α × β) :=
  if l.any (·.1 == k) then l.map (fun p => if p.1 == k then (k, v) else p) else l ++ [(k, v)]

/-! ## primitives: the only functions that change `Sys` -/

/-- a record write: the reference store appends the record to the run's history and exactly one outbox entry
describing it (`RecordStore.Store` contract) -/
def Sys.write (s : Sys) (cfg : Cfg) (r : Rec) : Sys :=
  let r := if cfg.stamp then { r with updatedAt := s.now } else r
  let runs := if r.runId < s.runs.length
    then s.runs.mapIdx (fun i x => if i = r.runId then { x with hist := r :: x.hist } else x)
    else s.runs ++ [{ fid := r.fid, hist := [r] }]
  { s with runs := runs, outbox := s.outbox ++ [{ ord := s.outN, ev := Routing.route r }], outN := s.outN + 1 }

def Sys.relaySend (s : Sys) (e : Event) : Sys := { s with log := s.log ++ [e] }
def Sys.relayDelete (s : Sys) (ord : Nat) : Sys := { s with outbox := s.outbox.filter (fun o => o.ord != ord) }
def Sys.setCursor (s : Sys) (p : Proc) (n : Nat) : Sys := { s with cursors := assocSet s.cursors p n }
def Sys.timerCreate (s : Sys) (fid : Fid) (rid : RunId) (st : Status) (exp : Int) : Sys :=
  { s with timers := s.timers ++ [{ id := s.timerN + 1, fid := fid, runId := rid, status := st, expireAt := exp }], timerN := s.timerN + 1 }
def Sys.timerComplete (s : Sys) (id : Nat) : Sys :=
  { s with timers := s.timers.map (fun t => if t.id = id then { t with completed := true } else t) }
def Sys.timerCancel (s : Sys) (id : Nat) : Sys := { s with timers := s.timers.filter (fun t => t.id != id) }
def Sys.setCount (s : Sys) (k : Int × Proc × RunId) (v : Int) : Sys := { s with counts := assocSet s.counts k v }
def Sys.setPState (s : Sys) (p : Proc) (st : PState) : Sys := { s with pst := assocSet s.pst p st }
def Sys.tick (s : Sys) (d : Int) : Sys := { s with now := s.now + d }

/-! ## the operation monad -/

inductive FaultKind | before | after | cancel
deriving DecidableEq, Repr, Inhabited

/-- what a user function does when invoked (chosen by the environment) -/
inductive Outcome
  | ret (next : Status) (n : Obj)   -- return status `next` after setting the object to `n`
  | err (tok : Int)                 -- return an error (message token)
  | pause                           -- `return r.Pause(ctx, …)`
  | cancel                          -- `return r.Cancel(ctx, …)`
  | nested (status : Status)        -- re-enter the API: `Callback(foreignID, status)`, then take the next outcome
  | timer (sec : Int)               -- timer function: expire at now + sec
  | zero                            -- timer function: zero time
  | zeroErr                         -- timer function: zero time and an error
  | ok                              -- hook / custom delete: success
  | lost (k : Int)                  -- hook / custom delete: the process loses its role while the function runs; the function fails with error k
  | exhausted                       -- no outcome left: behaves as an error
deriving Repr, Inhabited, DecidableEq

def Outcome.str : Outcome → String
  | .ret a b => s!"r:{a}:{b}"
  | .err k => s!"e:{k}"
  | .pause => "p"
  | .cancel => "c"
  | .nested a => s!"n:{a}"
  | .timer a => s!"t:{a}"
  | .zero => "z"
  | .zeroErr => "ze"
  | .ok => "k"
  | .lost k => s!"l:{k}"
  | .exhausted => "x"

structure Env where
  faults : List (Nat × FaultKind) := []
  outcomes : List Outcome := []
  stale : Nat := 0
  ackIgn : Bool := false  -- the streamer acknowledges even under a cancelled context (as the in-memory streamer does)
deriving Repr, Inhabited

inductive Abort
  | err (tok : Int)      -- an error with its message token (feeds the error counter)
  | cancelled
deriving DecidableEq, Repr, Inhabited

structure OpSt where
  sys : Sys
  callN : Nat := 0
  outI : Nat := 0
  obs : List String := []   -- newest first
  cancelled : Bool := false -- the lease context has been cancelled
  stale : Nat := 0
  isApi : Bool := false

def M (α : Type) := Env → OpSt → (Except Abort α × OpSt)

instance : Monad M where
  pure a := fun _ st => (.ok a, st)
  bind m f := fun env st =>
    match m env st with
    | (.ok a, st') => f a env st'
    | (.error e, st') => (.error e, st')

def getSys : M Sys := fun _ st => (.ok st.sys, st)
def modifySys (f : Sys → Sys) : M Unit := fun _ st => (.ok (), { st with sys := f st.sys })
def emit (l : String) : M Unit := fun _ st => (.ok (), { st with obs := l :: st.obs })
def emitIf (c : Bool) (l : String) : M Unit := fun _ st => (.ok (), if c then { st with obs := l :: st.obs } else st)
def throwA {α} (a : Abort) : M α := fun _ st => (.error a, st)
/-- run `m`, catching an abort (the Go code inspects the error and carries on) -/
def tryM {α} (m : M α) : M (Except Abort α) := fun env st =>
  match m env st with
  | (.ok a, st') => (.ok (.ok a), st')
  | (.error e, st') => (.ok (.error e), st')

def injectedTok : Int := 100
def cancelledTok : Int := 101

def nextOutcome : M Outcome := fun env st =>
  (.ok ((env.outcomes[st.outI]?).getD .exhausted), { st with outI := st.outI + 1 })

/-- One adapter call. `label` is printed; `eff` computes the result rendering, the value and the new `Sys`.
Context honouring: after a cancel every further call fails without effect. -/
def call {α} (label : String) (eff : Sys → (String × Except Abort α × Sys)) : M α := fun env st =>
  if st.cancelled then
    (.error .cancelled, { st with obs := (label ++ "~") :: st.obs })
  else
    match env.faults.lookup st.callN with
    | some .before =>
      (.error (.err injectedTok), { st with callN := st.callN + 1, obs := (label ++ "!b") :: st.obs })
    | some .after =>
      (.error (.err injectedTok),
        { st with callN := st.callN + 1, sys := (eff st.sys).2.2, obs := (label ++ (eff st.sys).1 ++ "!a") :: st.obs })
    | some .cancel =>
      (.error .cancelled, { st with callN := st.callN + 1, obs := (label ++ "!c") :: st.obs, cancelled := !st.isApi })
    | none =>
      ((eff st.sys).2.1,
        { st with callN := st.callN + 1, sys := (eff st.sys).2.2, obs := (label ++ (eff st.sys).1) :: st.obs })

/-! ## rendering -/

def recStr (r : Rec) : String := s!"r{r.runId},rs{r.runState},st{r.status},v{r.version},o{r.obj}"
def topicStr (e : Event) : String :=
  match e.topicKind with
  | 0 => s!"s{e.topicStatus}"
  | 1 => "del"
  | _ => "rsc"
def evStr (i : Nat) (e : Event) : String := s!"e{i}:{topicStr e},r{e.runId},v{e.version},rs{e.runState}"

/-! ## adapter calls -/

/-- what `Lookup` answers: the current record, or (stale read) the version `staleN` writes back; with its rendering -/
def lookupRes (s : Sys) (rid : RunId) (staleN : Nat) : String × Option Rec :=
  match s.runs[rid]? with
  | none => ("(nf)", none)
  | some run =>
    let i := if staleN < run.hist.length then staleN else run.hist.length - 1
    match run.hist[i]? with
    | none => ("(nf)", none)
    | some r => ("(" ++ recStr r ++ ")" ++ (if i != 0 then "~stale" else ""), some r)

/-- `Lookup` -/
def lookup (rid : RunId) : M (Option Rec) := fun env st =>
  (call "lookup" (fun s => ((lookupRes s rid st.stale).1, .ok (lookupRes s rid st.stale).2, s))) env { st with stale := 0 }

/-- what `Latest` answers: the head of the newest created run of the foreign ID -/
def latestRes (s : Sys) (fid : Fid) : Option Rec := (s.runs.reverse.find? (fun r => r.fid == fid)).bind (·.hist.head?)

/-- `Latest` -/
def latest (fid : Fid) : M (Option Rec) :=
  call "latest" (fun s =>
    ((match latestRes s fid with | none => "(nf)" | some r => "(" ++ recStr r ++ ")"), .ok (latestRes s fid), s))

def store (cfg : Cfg) (r : Rec) : M Unit :=
  call "store" (fun s =>
    let r' := if cfg.stamp then { r with updatedAt := s.now } else r
    ("(" ++ recStr r' ++ ")", .ok (), s.write cfg r))

/-- the lease context is cancelled from outside while a user function runs (role lost mid-function) -/
def loseLease : M Unit := fun _ st => (.ok (), { st with cancelled := !st.isApi })

/-- `ack`: an adapter call; a streamer whose acknowledgement does not look at the context (`env.ackIgn`) performs it
even after the lease context has been cancelled -/
def ack (p : Proc) (i : Nat) : M Unit := fun env st =>
  if env.ackIgn && st.cancelled then
    let r := call s!"ack(e{i})" (fun s => ("", .ok (), s.setCursor p (i + 1))) env { st with cancelled := false }
    (r.1, { r.2 with cancelled := true })
  else call s!"ack(e{i})" (fun s => ("", .ok (), s.setCursor p (i + 1))) env st

/-! ## the write paths (update.go, runstate.go, trigger.go, delete.go) -/

def errInvalidRunState (a b : Int) : Int := 2000 + a * 10 + b
def errInvalidTransition : Int := 300
def errStale : Int := 301
def errNotFound : Int := 302
def errUserBase : Int := 0   -- "err-k" ↦ k ; "err-x" ↦ 98 ; "err-ze" ↦ 97

/-- `updateRecord`: version + 1, then `Store` -/
def updateRecord (cfg : Cfg) (r : Rec) : M Unit := store cfg { r with version := r.version + 1 }

def ctlReason : RS.CtlOp → Nat
  | .pause => 1 | .resume => 0 | .cancel => 2 | .deleteData => 3

/-- `runStateControllerImpl.update` on the controller's in-memory record `mem`. Never aborts: returns the record
the controller holds afterwards (the Go code mutates run state, reason and version BEFORE storing, and keeps the
mutation when the store fails) and the error, if any. -/
def ctlUpdateMem (cfg : Cfg) (mem : Rec) (op : RS.CtlOp) : M (Rec × Option Abort) :=
  let target := RS.target op
  if RS.allowed mem.runState target then do
    let mem' := { mem with runState := target, reason := ctlReason op, version := mem.version + 1 }
    match (← tryM (store cfg mem')) with
    | .ok _ => pure (mem', none)
    | .error a => pure (mem', some a)
  else pure (mem, some (.err (errInvalidRunState mem.runState target)))

/-- the same, for callers that just propagate the error -/
def ctlUpdate (cfg : Cfg) (mem : Rec) (op : RS.CtlOp) : M Rec := do
  let (mem', e) ← ctlUpdateMem cfg mem op
  match e with
  | none => pure mem'
  | some a => throwA a

/-- `validateTransition` -/
def validate (cfg : Cfg) (current next : Status) : Bool :=
  let nodes := Graph.transitions cfg.graph current
  if Gen.G.validateNoTransitions nodes.length then false
  else nodes.any (fun n => Gen.G.validateFound n next)

/-- the record the updater builds from the in-memory run: Completed iff the destination is terminal, the new status,
the object the function left behind, update time now, description of the new status; identity, creation time and
version (before the +1 of `updateRecord`) from the run -/
def updaterRec (cfg : Cfg) (next : Status) (run : Rec) (newObj : Obj) (now : Int) : Rec :=
  { run with runState := (if Graph.isTerminal cfg.graph next then Gen.RunStateCompleted else Gen.RunStateRunning),
             status := next, obj := newObj, updatedAt := now, descr := next }

/-- the updater closure of `newUpdater`: `run` is the in-memory run handed to the user function -/
def updater (cfg : Cfg) (current next : Status) (run : Rec) (newObj : Obj) : M Unit := do
  let s ← getSys
  let upd : Rec := updaterRec cfg next run newObj s.now
  match (← lookup run.runId) with
  | none => throwA (.err errNotFound)
  | some latest =>
    if Gen.G.updaterStatusChanged latest.status current then pure ()
    else if !validate cfg current next then throwA (.err errInvalidTransition)
    else updateRecord cfg upd

/-! ## user-function outcomes -/

/-- result of a step / callback / timeout function: `(Status, error)` plus the object it leaves in memory -/
structure FnRes where
  next : Status
  obj : Obj

/-- the record as `buildRun` hands it to a user function: Initiated presented as Running (`RS.view`) -/
def viewRec (r : Rec) : Rec := { r with runState := RS.view r.runState }

/-- `processCallback`, the guards on the latest record: other status → nothing; stopped run → nothing; otherwise
invoke the callback function (`runner`), skip or update -/
def callbackGate (cfg : Cfg) (status : Status) (wr : Rec) (runner : Rec → M (Except Abort FnRes × Rec)) : M Unit :=
  if Gen.G.callbackSkip wr.status status then pure ()
  else if Gen.stopped wr.runState then pure ()
  else do
    let run := viewRec wr
    match (← runner run) with
    | (.error a, _) => throwA a
    | (.ok res, _) =>
      if Gen.skipValues.contains res.next then pure ()
      else updater cfg status res.next run res.obj

/-- `processCallback` for one registered callback -/
def callbackOne (cfg : Cfg) (fid : Fid) (status : Status) (runner : Rec → M (Except Abort FnRes × Rec)) : M Unit := do
  match (← latest fid) with
  | none => throwA (.err errNotFound)
  | some wr => callbackGate cfg status wr runner

mutual
/-- a step / callback / timeout function invoked on the in-memory run `run` (already viewed through `buildRun`);
`mem` is the record the run's controller points to. Never aborts: returns the function's result or error, and the
controller's record afterwards. -/
def runFn (cfg : Cfg) (kind : String) (run mem : Rec) : Nat → Bool → M (Except Abort FnRes × Rec)
  | 0, _ => pure (.error (.err 99), mem)
  | fuel + 1, first => do
    let out ← nextOutcome
    if first then emit s!"fn:{kind}({recStr run})->{out.str}" else emit s!"fn:cont->{out.str}"
    match out with
    | .ret next n => pure (.ok ⟨next, n⟩, mem)
    | .err k => pure (.error (.err k), mem)
    | .pause => do
      let (mem', e) ← ctlUpdateMem cfg mem .pause
      match e with
      | none => pure (.ok ⟨Gen.SkipTypeRunStateUpdate, run.obj⟩, mem')
      | some a => pure (.error a, mem')
    | .cancel => do
      let (mem', e) ← ctlUpdateMem cfg mem .cancel
      match e with
      | none => pure (.ok ⟨Gen.SkipTypeRunStateUpdate, run.obj⟩, mem')
      | some a => pure (.error a, mem')
    | .nested st => do
      match (← tryM (callbackApi cfg run.fid st fuel)) with
      | .ok _ => pure ()
      | .error _ => emit "nested-callback-error"
      runFn cfg kind run mem fuel false
    | _ => pure (.error (.err 98), mem)

/-- `Workflow.Callback`: every callback registered on the status, in registration order, stopping at the first error -/
def callbackApi (cfg : Cfg) (fid : Fid) (status : Status) : Nat → M Unit
  | 0 => throwA (.err 99)
  | fuel + 1 => (cfg.callbacksAt status).forM (fun _ =>
      callbackOne cfg fid status (fun run => runFn cfg "callback" run run fuel true))
end

/-- nesting budget of the mutual recursion runFn / callbackApi. Every nested level consumes at least one user-function outcome
of the operation's environment and the harness never supplies more than 6 per operation; each level costs at most 3 units of
fuel, so 40 is never exhausted on a co-simulated history (6 was: three-deep re-entrant callbacks ran out, a false alarm of
the thorough tier). -/
def fuelDefault : Nat := 40

/-! ## error counting (`maybePause`, internal/errorcounter) -/

def abortTok : Abort → Int
  | .err k => k
  | .cancelled => cancelledTok

/-- returns `true` when the run was paused; aborts with the pause error when pausing failed.
`mem` is the record the run's controller points to. -/
def maybePauseMem (cfg : Cfg) (n : Int) (p : Proc) (mem : Rec) (e : Abort) : M (Bool × Rec) := do
  if Gen.G.pauseDisabled n then pure (false, mem)
  else do
    let key := (abortTok e, p, mem.runId)
    let s ← getSys
    let count := s.count key + 1
    modifySys (·.setCount key count)
    if Gen.G.pauseBelowThreshold count n then pure (false, mem)
    else do
      let (mem', err) ← ctlUpdateMem cfg mem .pause
      match err with
      | some a => throwA (match a with | .cancelled => .cancelled | .err _ => .err 320)
      | none => do
        modifySys (·.setCount key 0)
        pure (true, mem')

def maybePause (cfg : Cfg) (n : Int) (p : Proc) (mem : Rec) (e : Abort) : M Bool := do
  let (b, _) ← maybePauseMem cfg n p mem e
  pure b

/-! ## handlers -/

/-- `stepConsumer`, after the guards: build the run, invoke the function, pause-or-fail on error, skip or update -/
def stepRun (cfg : Cfg) (p : Proc) (pauseAfter : Int) (record : Rec) (fn : Rec → M (Except Abort FnRes × Rec)) : M Unit := do
  let run := viewRec record
  match (← fn run) with
  | (.error err, mem) => do
    -- `mem`: a failed Pause/Cancel inside the function leaves the controller's record changed
    let paused ← maybePause cfg pauseAfter p mem err
    if paused then pure () else throwA err
  | (.ok res, _) =>
    if Gen.skipValues.contains res.next then pure ()
    else updater cfg record.status res.next run res.obj

/-- `stepConsumer`, the guards on the record the store returned: version gate (old: skip; newer: stale-read error),
stopped runs are skipped -/
def stepGate (cfg : Cfg) (p : Proc) (pauseAfter : Int) (e : Event) (record : Rec)
    (fn : Rec → M (Except Abort FnRes × Rec)) : M Unit :=
  if Gen.G.stepSkipOld record.version e.version then pure ()
  else if Gen.G.stepStale record.version e.version then throwA (.err errStale)
  else if Gen.G.stepStopped record.runState then pure ()
  else stepRun cfg p pauseAfter record fn

/-- `stepConsumer` with a consumer function `fn` (the step function, or the timeout inserter's wrapper) -/
def stepHandle (cfg : Cfg) (p : Proc) (_status : Status) (pauseAfter : Int) (e : Event)
    (fn : Rec → M (Except Abort FnRes × Rec)) : M Unit := do
  match (← lookup e.runId) with
  | none => pure ()
  | some record => stepGate cfg p pauseAfter e record fn

/-- what the inserter does with the answer of one timer function: create a timer for a non-zero time, nothing for the
zero time, fail on an error -/
def inserterOutcome (status : Status) (run : Rec) (now : Int) : Outcome → M Unit
  | .timer sec =>
    call s!"tcreate(r{run.runId},st{status},{now + sec})" (fun s => ("", .ok (), s.timerCreate run.fid run.runId status (s.now + sec)))
  | .zero => pure ()
  | .zeroErr => throwA (.err 97)
  | .err k => throwA (.err k)
  | _ => throwA (.err 98)

/-- one timeout configuration of the status: invoke its timer function, act on the answer -/
def inserterOne (status : Status) (run : Rec) : M Unit := do
  let out ← nextOutcome
  emit s!"fn:timer({recStr run})->{out.str}"
  let s ← getSys
  inserterOutcome status run s.now out

/-- the consumer function of `timeoutAutoInserterConsumer` -/
def inserterFn (cfg : Cfg) (status : Status) (run : Rec) : M (Except Abort FnRes × Rec) := do
  let r ← tryM ((cfg.timeoutsAt status).forM (fun _ => inserterOne status run))
  match r with
  | .ok _ => pure (.ok ⟨0, run.obj⟩, run)
  | .error a => pure (.error a, run)

def decodable (o : Obj) : Bool := o != -7777777

def hookHandle (_cfg : Cfg) (rs : RunState) (e : Event) : M Unit := do
  match (← lookup e.runId) with
  | none => throwA (.err errNotFound)
  | some record =>
    if !decodable record.obj then pure ()
    else do
      let out ← nextOutcome
      emit s!"fn:hook{rs}({recStr record})->{out.str}"
      match out with
      | .err k => throwA (.err k)
      | .lost k => do loseLease; throwA (.err k)
      | .exhausted => throwA (.err 98)
      | _ => pure ()

def scrub (o : Obj) : Obj := if o > -500000 then -1000000 - o else o

/-- the wrapper `WithCustomDelete` builds: unmarshal (fails on an object that does not decode), apply the user's
function, re-marshal -/
def customDeleteFn (record : Rec) : M Obj :=
  if !decodable record.obj then throwA (.err 96)
  else do
    let out ← nextOutcome
    emit s!"fn:delete(o{record.obj})->{out.str}"
    match out with
    | .err k => throwA (.err k)
    | .lost k => do loseLease; throwA (.err k)
    | .exhausted => throwA (.err 98)
    | _ => pure (scrub record.obj)

/-- the replacement object: the custom delete function's result, or the fixed default marker -/
def deleteObj (cfg : Cfg) (record : Rec) : M Obj :=
  if cfg.customDelete then customDeleteFn record else pure (-7777777 : Int)

/-- `runDelete` -/
def deleteHandle (cfg : Cfg) (e : Event) : M Unit := do
  match (← lookup e.runId) with
  | none => throwA (.err errNotFound)
  | some record => do
    let newObj ← deleteObj cfg record
    updateRecord cfg { record with obj := newObj, runState := Gen.RunStateDataDeleted }

def retryHandle (cfg : Cfg) (e : Event) : M Unit := do
  match (← lookup e.runId) with
  | none => throwA (.err errNotFound)
  | some record =>
    if Gen.G.retryNotPaused record.runState then pure ()
    else do
      let s ← getSys
      let threshold := Gen.G.retryThreshold s.now cfg.retryAfterSec
      if Gen.G.retryTooEarly record.updatedAt threshold then pure ()
      else do
        let _ ← ctlUpdate cfg record .resume
        pure ()

/-! ## the consume loop (`consume`, `runOnce`) -/

def procLag (cfg : Cfg) : Proc → Int
  | .step s _ _ => cfg.stepLag s
  | .retry => cfg.retryAfterSec
  | _ => 0

/-- which stream events a consumer receives -/
def subscribed (p : Proc) (e : Event) : Bool :=
  match p with
  | .step s _ _ => e.topicKind == 0 && e.topicStatus == s
  | .inserter s => e.topicKind == 0 && e.topicStatus == s
  | .hook _ => e.topicKind == 2
  | .retry => e.topicKind == 2
  | .delete => e.topicKind == 1
  | _ => false

/-- event filters: true = skip (and acknowledge) -/
def filteredOut (p : Proc) (i : Nat) (e : Event) : Bool :=
  match p with
  | .step _ shard total => Routing.shardOut shard total (i + 1)
  | .hook rs => e.runState != rs
  | .retry => e.runState != Gen.RunStatePaused
  | _ => false

def topicOf (p : Proc) : String :=
  match p with
  | .step s _ _ => s!"s{s}"
  | .inserter s => s!"s{s}"
  | .hook _ => "rsc"
  | .retry => "rsc"
  | .delete => "del"
  | _ => "?"

def nextIndexFrom (p : Proc) (log : List Event) (i : Nat) : Nat → Option Nat
  | 0 => none
  | fuel + 1 =>
    match log[i]? with
    | none => none
    | some e => if subscribed p e then some i else nextIndexFrom p log (i + 1) fuel

def Sys.nextIndex (s : Sys) (p : Proc) : Option Nat := nextIndexFrom p s.log (s.cursor p) (s.log.length + 1)

def handle (cfg : Cfg) (p : Proc) (e : Event) : M Unit :=
  match p with
  | .step s _ _ => stepHandle cfg p s (cfg.stepPauseAfter s) e (fun run => runFn cfg "step" run run fuelDefault true)
  | .inserter s => stepHandle cfg p s (cfg.timeoutPauseAfter s) e (inserterFn cfg s)
  | .hook rs => hookHandle cfg rs e
  | .delete => deleteHandle cfg e
  | .retry => retryHandle cfg e
  | _ => pure ()

/-- after the lag wait: filter, handle, ack -/
def deliver (cfg : Cfg) (p : Proc) (i : Nat) (e : Event) : M Unit := do
  if filteredOut p i e then ack p i
  else do
    handle cfg p e
    ack p i

/-- from the `Recv` gate: receive, maybe wait for the lag (returns the lag-wait parking state), deliver -/
def recvOp (cfg : Cfg) (p : Proc) : M PState := do
  let s ← getSys
  match s.nextIndex p with
  | none => throwA (.err 95)  -- the simulator never releases a receiver with nothing to deliver
  | some i =>
    match s.log[i]? with
    | none => throwA (.err 95)
    | some e => do
      call "recv" (fun s => ("(" ++ evStr i e ++ ")", .ok (), s))
      let lag := procLag cfg p
      let delay := Gen.G.consumeDelay lag (s.now - e.createdAt)
      if Gen.G.consumeMustWait lag delay then pure (.lagWait i (s.now + delay))
      else do
        deliver cfg p i e
        pure .atRecv

/-- relaying one outbox entry: new sender, send, close the sender, delete the entry -/
def relayEntry (o : OutE) : M Unit := do
  call s!"newsender({topicStr o.ev})" (fun s => ("", .ok (), s))
  let r ← tryM (call "send" (fun s =>
    ("(" ++ evStr s.log.length { o.ev with createdAt := s.now } ++ s!",t{o.ev.type})", .ok (),
      s.relaySend { o.ev with createdAt := s.now })))
  emit "sendclose"
  match r with
  | .error a => throwA a
  | .ok _ => call s!"delout({o.ord})" (fun s => ("", .ok (), s.relayDelete o.ord))

/-- the relay cycle `purgeOutbox` -/
def relayOp (cfg : Cfg) : M Unit := do
  let batch ← call "listoutbox" (fun s =>
    ("(" ++ " ".intercalate ((s.outbox.take cfg.outboxLimit.toNat).map (fun o => toString o.ord)) ++ ")",
      .ok (s.outbox.take cfg.outboxLimit.toNat), s))
  batch.forM relayEntry

/-- `processTimeout` for one timeout configuration. `shared` is the record the poller read for this timer: it is
handed to `buildRun` by pointer for EVERY configuration of the status, so the view and any controller mutation
carry over to the next configuration; returns the shared record afterwards. -/
def processTimeout (cfg : Cfg) (p : Proc) (status : Status) (shared : Rec) (t : Timer) : M Rec := do
  let run := viewRec shared
  match (← runFn cfg "timeout" run run fuelDefault true) with
  | (.error err, mem) => do
    let (_, mem') ← maybePauseMem cfg (cfg.timeoutPauseAfter status) p mem err
    pure mem'
  | (.ok res, mem) =>
    if Gen.skipValues.contains res.next then pure mem
    else do
      updater cfg t.status res.next run res.obj
      call s!"tcomplete({t.id})" (fun s => ("", .ok (), s.timerComplete t.id))
      pure mem

/-- what `ListValid` answers for the queried instant: timers of the status, not completed, expiry not after it -/
def dueTimers (s : Sys) (status : Status) (queried : Int) : List Timer :=
  s.timers.filter (fun t => t.status == status && !t.completed && !Gen.G.memTimeoutNotDue t.expireAt queried)

/-- the poller's handling of one due timer: re-read the run; cancel the timer when the run moved on or finished; skip
stopped runs; otherwise run every timeout configuration of the status -/
def pollGate (cfg : Cfg) (p : Proc) (status : Status) (t : Timer) (r : Rec) : M Unit :=
  if Gen.G.pollCancel r.status status r.runState then
    call s!"tcancel({t.id})" (fun s => ("", .ok (), s.timerCancel t.id))
  else if Gen.G.pollSkipStopped r.runState then pure ()
  else do
    let _ ← (cfg.timeoutsAt status).foldlM (fun shared _ => processTimeout cfg p status shared t) r
    pure ()

def pollTimer (cfg : Cfg) (p : Proc) (status : Status) (t : Timer) : M Unit := do
  match (← lookup t.runId) with
  | none => throwA (.err errNotFound)
  | some r => pollGate cfg p status t r

/-- one iteration of the `pollTimeouts` loop, from the `ListValid` gate -/
def pollOp (cfg : Cfg) (p : Proc) (status : Status) (queried : Int) : M Unit := do
  let due ← call s!"listvalid(st{status})" (fun s =>
    ("(" ++ " ".intercalate ((dueTimers s status queried).map (fun t => toString t.id)) ++ ")", .ok (dueTimers s status queried), s))
  due.forM (pollTimer cfg p status)

/-! ## one operation of a background process -/

def newReceiver (p : Proc) : M Unit := call s!"newrecv({topicOf p})" (fun s => ("", .ok (), s))

/-- the body of one operation, from the gate the process is parked at; returns the next parking state.
`close` = the deferred `stream.Close()` of consumers -/
def procBody (cfg : Cfg) (p : Proc) (ps : PState) : M PState :=
  match ps with
  | .backoff _ => pure .needRole
  | .needRole => do
    emit "await"
    match p with
    | .outbox => do relayOp cfg; pure .needRole
    | .poller _ => do let s ← getSys; pure (.atPoll s.now)
    | _ => do newReceiver p; pure .atRecv
  | .atPoll since =>
    match p with
    | .poller st => do pollOp cfg p st since; let s ← getSys; pure (.atPoll s.now)
    | _ => pure (.atPoll since)
  | .atRecv => recvOp cfg p
  | .lagWait i _ => do
    let s ← getSys
    match s.log[i]? with
    | none => throwA (.err 95)
    | some e =>
      -- the event being waited for was received from the process's own topic (in the Go code it is a local variable
      -- of `consume`, handed over by `Recv`); the index representation re-states that
      if subscribed p e then do deliver cfg p i e; pure .atRecv
      else throwA (.err 95)

def isConsumer : Proc → Bool
  | .outbox => false
  | .poller _ => false
  | _ => true

/-- does the process hold an open receiver in this parking state? -/
def hasReceiver (p : Proc) (ps : PState) : Bool :=
  isConsumer p && (match ps with | .atRecv => true | .lagWait _ _ => true | _ => false)

def isCancelled : M Bool := fun _ st => (.ok st.cancelled, st)
/-- did this operation open a receiver (a `newrecv` call that returned normally)? -/
def openedReceiver : M Bool := fun _ st => (.ok (st.obs.any (fun l => l.startsWith "newrecv(" && l.endsWith ")")), st)

/-- `runOnce` around the body: on error close the receiver (if open) and back off; when the lease context is cancelled
(by a crash fault or a swallowed cancellation: the loops re-check `ctx.Err()`), go back for the role without back-off -/
def procOp (cfg : Cfg) (p : Proc) : M Unit := do
  let s ← getSys
  let r ← tryM (procBody cfg p (s.pstate p))
  let dead ← isCancelled
  match r, dead with
  | .ok ps', false => modifySys (·.setPState p ps')
  | _, _ => do
    -- a receiver is open if it was open before, or if this operation opened it (needRole: newrecv succeeded)
    let opened ← openedReceiver
    emitIf (hasReceiver p (s.pstate p) || (isConsumer p && s.pstate p == .needRole && opened)) "close"
    let s' ← getSys
    modifySys (·.setPState p (if dead then .needRole else .backoff (s'.now + cfg.backoffSec)))

/-- lease loss: the role scheduler cancels the context of a parked process -/
def leaseLossOp (_cfg : Cfg) (p : Proc) : M Unit := do
  let s ← getSys
  match s.pstate p with
  | .needRole => pure ()
  | .backoff _ => modifySys (·.setPState p .needRole)
  | .atRecv => do emit "recv~"; emit "close"; modifySys (·.setPState p .needRole)
  | .lagWait _ _ => do emit "close"; modifySys (·.setPState p .needRole)
  | .atPoll _ =>
    match p with
    | .poller st => do emit s!"listvalid(st{st})~"; modifySys (·.setPState p .needRole)
    | _ => pure ()

/-! ## API calls -/

def errClass : Abort → String
  | .cancelled => "err:cancelled"
  | .err k =>
    if k == injectedTok then "err:injected"
    else if k == errNotFound then "err:notfound"
    else if k == errInvalidTransition then "err:invalidtransition"
    else if k ≥ 2000 then "err:invalidrunstate"
    else if k == 310 then "err:inprogress"
    else if k == 311 then "err:notconfigured"
    else if k == 312 then "err:norun"
    else if k == 313 then "err:nohandle"
    else "err:user"

/-- the status a new run starts at: the requested one when non-zero, else the default starting point — if declared -/
def triggerStart (cfg : Cfg) (start : Status) : Option Status :=
  match (if Gen.G.triggerUseRequested start then some start else Graph.defaultStart cfg.graph) with
  | none => none
  | some st => if Graph.isValid cfg.graph st then some st else none

/-- the record `trigger` builds (version 0 before the +1 of `updateRecord`) -/
def triggerRec (fid : Fid) (st : Status) (n : Obj) (now : Int) (rid : RunId) : Rec :=
  { runId := rid, fid := fid, runState := Gen.RunStateInitiated, status := st, obj := n,
    createdAt := now, updatedAt := now, version := 0, descr := st }

def triggerApi (cfg : Cfg) (fid : Fid) (start : Status) (n : Obj) : M String :=
  match triggerStart cfg start with
  | none => throwA (.err 311)
  | some st => do
    let last ← latest fid
    if Gen.G.triggerInProgress ((last.map (·.runState)).getD Gen.RunStateUnknown) then throwA (.err 310)
    else do
      let s ← getSys
      updateRecord cfg (triggerRec fid st n s.now s.runs.length)
      pure s!"ok:r{s.runs.length}"

def opOfString : String → Option RS.CtlOp
  | "pause" => some .pause | "resume" => some .resume | "cancel" => some .cancel | "delete" => some .deleteData
  | _ => none

def ctlFreshApi (cfg : Cfg) (rid : RunId) (op : RS.CtlOp) : M String := do
  let s ← getSys
  if rid ≥ s.runs.length then throwA (.err 312)
  else match (← lookup rid) with
    | none => throwA (.err errNotFound)
    | some r => do
      let _ ← ctlUpdate cfg r op
      pure "ok"

def handleApi (rid : RunId) : M String := do
  let s ← getSys
  if rid ≥ s.runs.length then throwA (.err 312)
  else match (← lookup rid) with
    | none => throwA (.err errNotFound)
    | some r => do
      modifySys (fun s => { s with handles := s.handles ++ [(rid, r)] })
      pure s!"ok:h{s.handles.length}"

def hctlApi (cfg : Cfg) (h : Nat) (op : RS.CtlOp) : M String := do
  let s ← getSys
  match s.handles[h]? with
  | none => throwA (.err 313)
  | some (rid, mem) =>
    -- the Go controller mutates its record (run state, reason, version) before storing, and keeps it on failure
    let target := RS.target op
    if RS.allowed mem.runState target then do
      let reason : Nat := match op with | .pause => 1 | .resume => 0 | .cancel => 2 | .deleteData => 3
      let mem' := { mem with runState := target, reason := reason, version := mem.version + 1 }
      modifySys (fun s => { s with handles := s.handles.set h (rid, mem') })
      store cfg mem'
      pure "ok"
    else throwA (.err (errInvalidRunState mem.runState target))

/-! ## actions and the step function -/

inductive Act
  | step (p : Proc) (env : Env)
  | lease (p : Proc)
  | trigger (fid : Fid) (start : Status) (n : Obj) (env : Env)
  | callback (fid : Fid) (status : Status) (env : Env)
  | ctl (rid : RunId) (op : RS.CtlOp) (env : Env)
  | handle (rid : RunId)
  | hctl (h : Nat) (op : RS.CtlOp) (env : Env)
  | tick (sec : Int)
  | rewind (p : Proc) (idx : Nat)
  | dup (idx : Nat)
deriving Repr, Inhabited

structure StepOut where
  sys : Sys
  obs : List String
  res : String

def runM {α} (m : M α) (env : Env) (s : Sys) (isApi : Bool) : (Except Abort α × OpSt) :=
  m env { sys := s, stale := env.stale, isApi := isApi }

def apiOut (r : Except Abort String × OpSt) : StepOut :=
  match r with
  | (.ok res, st) => ⟨st.sys, st.obs.reverse, res⟩
  | (.error a, st) => ⟨st.sys, st.obs.reverse, errClass a⟩

/-- can the process take a step right now? (something to receive / timer due) -/
def Sys.enabled (s : Sys) (p : Proc) : Bool :=
  match s.pstate p with
  | .needRole => true
  | .atPoll _ => true
  | .atRecv => (s.nextIndex p).isSome
  | .lagWait _ u => decide (u ≤ s.now)
  | .backoff u => decide (u ≤ s.now)

def stepAct (cfg : Cfg) (s : Sys) : Act → StepOut
  | .step p env =>
    if s.enabled p then
      ⟨(runM (procOp cfg p) env s false).2.sys, (runM (procOp cfg p) env s false).2.obs.reverse, "-"⟩
    else ⟨s, [], "noop"⟩
  | .lease p =>
    let (_, st) := runM (leaseLossOp cfg p) {} s false
    ⟨st.sys, st.obs.reverse, "-"⟩
  | .trigger fid start n env => apiOut (runM (triggerApi cfg fid start n) env s true)
  | .callback fid status env =>
    apiOut (runM (do callbackApi cfg fid status fuelDefault; pure "ok") env s true)
  | .ctl rid op env => apiOut (runM (ctlFreshApi cfg rid op) env s true)
  | .handle rid => apiOut (runM (handleApi rid) {} s true)
  | .hctl h op env => apiOut (runM (hctlApi cfg h op) env s true)
  | .tick sec => ⟨s.tick sec, [], "-"⟩
  | .rewind p idx => if idx ≤ s.cursor p then ⟨s.setCursor p idx, [], "-"⟩ else ⟨s, [], "noop"⟩
  | .dup idx =>
    match s.log[idx]? with
    | some e => ⟨s.relaySend e, [], "-"⟩
    | none => ⟨s, [], "noop"⟩

/-- reachable states: the closure of `stepAct` from the empty system -/
def runActs (cfg : Cfg) (s : Sys) (as : List Act) : Sys := as.foldl (fun s a => (stepAct cfg s a).sys) s

end WorkflowModel.Engine
