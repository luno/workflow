import WorkflowModel.Lemmas.Run
/-! # What single functions of the engine do, in every environment

Each lemma states one function of the model as a case distinction or an equation on its run `f .. env st`, so that the
statements about it (property files, the token invariant) are read off instead of unfolding it again. The generated guards
(`Gen.G.*`) come first, as statements about variables. -/
namespace WorkflowModel.Engine
open WorkflowModel

theorem pauseDisabled_iff (n : Int) : Gen.G.pauseDisabled n = true ↔ n = 0 := decide_eq_true_iff

theorem pauseBelowThreshold_iff (c n : Int) : Gen.G.pauseBelowThreshold c n = true ↔ c < n := decide_eq_true_iff

theorem retryNotPaused_iff (rs : Int) : Gen.G.retryNotPaused rs = true ↔ rs ≠ 3 := decide_eq_true_iff

theorem retryTooEarly_iff (updatedAt now after : Int) :
    Gen.G.retryTooEarly updatedAt (Gen.G.retryThreshold now after) = true ↔ now - after < updatedAt := by
  unfold Gen.G.retryTooEarly Gen.G.retryThreshold
  rw [decide_eq_true_iff, Int.sub_eq_add_neg]

/-- the lag test of `consume` on an event of age `age` -/
theorem mustWait_iff (lag age : Int) :
    Gen.G.consumeMustWait lag (Gen.G.consumeDelay lag age) = true ↔ 0 < lag ∧ age < lag := by
  unfold Gen.G.consumeMustWait Gen.G.consumeDelay
  rw [Bool.and_eq_true, decide_eq_true_iff, decide_eq_true_iff]
  exact and_congr_right fun _ => Int.sub_pos

theorem pollCancel_iff (recStatus status rs : Int) :
    Gen.G.pollCancel recStatus status rs = true ↔ recStatus ≠ status ∨ Gen.finished rs = true := by
  unfold Gen.G.pollCancel
  rw [Bool.or_eq_true, decide_eq_true_eq]

theorem nextIndexFrom_spec (p : Proc) (log : List Event) (fuel i j : Nat) (h : nextIndexFrom p log i fuel = some j) :
    (∃ e, log[j]? = some e ∧ subscribed p e = true) ∧ i ≤ j ∧ ∀ m e, i ≤ m → m < j → log[m]? = some e → subscribed p e = false := by
  fun_induction nextIndexFrom p log i fuel with
  | case1 => cases h
  | case2 => cases h
  | case3 i fuel e he hs =>
    cases h
    exact ⟨⟨e, he, hs⟩, Nat.le_refl _, fun m e h1 h2 _ => absurd h2 (Nat.not_lt.mpr h1)⟩
  | case4 i fuel e he hns ih =>
    obtain ⟨h0, h1, h2⟩ := ih h
    refine ⟨h0, Nat.le_of_succ_le h1, fun m e' hm1 hm2 hme => ?_⟩
    rcases Nat.eq_or_lt_of_le hm1 with rfl | hmi
    · rw [he] at hme; cases hme; exact Bool.eq_false_iff.mpr hns
    · exact h2 m e' hmi hm2 hme

/-- what `Recv` answers: the first event of the process's topic at or after its cursor -/
theorem nextIndex_spec {s : Sys} {p : Proc} {i : Nat} (h : s.nextIndex p = some i) :
    (∃ e, s.log[i]? = some e ∧ subscribed p e = true) ∧
    ∀ j e, s.cursor p ≤ j → j < i → s.log[j]? = some e → subscribed p e = false :=
  let ⟨h0, _, h2⟩ := nextIndexFrom_spec p s.log _ _ _ h
  ⟨h0, h2⟩

theorem nextIndexFrom_some (p : Proc) (log : List Event) (fuel i m : Nat) (e : Event) (him : i ≤ m) (hm : log[m]? = some e)
    (hs : subscribed p e = true) (hf : m - i < fuel) : (nextIndexFrom p log i fuel).isSome = true := by
  fun_induction nextIndexFrom p log i fuel with
  | case1 => omega
  | case2 i fuel hi => rw [List.getElem?_eq_none (Nat.le_trans (List.getElem?_eq_none_iff.mp hi) him)] at hm; cases hm
  | case3 => rfl
  | case4 i fuel e' he' hne ih =>
    rcases Nat.eq_or_lt_of_le him with rfl | hlt
    · rw [hm] at he'; cases he'; exact absurd hs hne
    · exact ih hlt (by omega)

theorem nextIndex_isSome {s : Sys} {p : Proc} {i : Nat} {e : Event} (hc : s.cursor p ≤ i) (he : s.log[i]? = some e)
    (hs : subscribed p e = true) : (s.nextIndex p).isSome = true := by
  have := (List.getElem?_eq_some_iff.mp he).1
  exact nextIndexFrom_some p s.log _ _ i e hc he hs (by omega)

theorem ack_sys (p : Proc) (i : Nat) (env : Env) (st : OpSt) :
    (ack p i env st).2.sys = st.sys ∨ (ack p i env st).2.sys = st.sys.setCursor p (i + 1) := by
  unfold ack
  split
  · exact (call_sys _ _ env { st with cancelled := false }).imp And.left id
  · exact (call_sys _ _ env st).imp And.left id

/-- what `consume` does with the event `Recv` answered at the instant `now`: park until the event has aged by the lag, or deliver -/
def afterRecv (cfg : Cfg) (p : Proc) (i : Nat) (e : Event) (now : Int) : M PState :=
  if Gen.G.consumeMustWait (procLag cfg p) (Gen.G.consumeDelay (procLag cfg p) (now - e.createdAt))
    then pure (.lagWait i (now + Gen.G.consumeDelay (procLag cfg p) (now - e.createdAt)))
    else do deliver cfg p i e; pure .atRecv

theorem afterRecv_wait {cfg : Cfg} {p : Proc} {i : Nat} {e : Event} {now : Int} (h : 0 < procLag cfg p ∧ now - e.createdAt < procLag cfg p) :
    afterRecv cfg p i e now = pure (.lagWait i (e.createdAt + procLag cfg p)) := by
  have hd : now + Gen.G.consumeDelay (procLag cfg p) (now - e.createdAt) = e.createdAt + procLag cfg p := by
    unfold Gen.G.consumeDelay; omega
  rw [afterRecv, if_pos ((mustWait_iff _ _).mpr h), hd]

theorem afterRecv_deliver {cfg : Cfg} {p : Proc} {i : Nat} {e : Event} {now : Int}
    (h : ¬ (0 < procLag cfg p ∧ now - e.createdAt < procLag cfg p)) :
    afterRecv cfg p i e now = (do deliver cfg p i e; pure .atRecv) := by
  rw [afterRecv, if_neg (mt (mustWait_iff _ _).mp h)]

theorem recvOp_run_ok {cfg : Cfg} {p : Proc} {env : Env} {st : OpSt} {i : Nat} {e : Event}
    (h : CallLive env st) (hidx : st.sys.nextIndex p = some i) (hev : st.sys.log[i]? = some e) :
    recvOp cfg p env st = afterRecv cfg p i e st.sys.now env
      { st with callN := st.callN + 1, obs := ("recv" ++ ("(" ++ evStr i e ++ ")")) :: st.obs } := by
  simp only [recvOp, bind_run, getSys, hidx, hev, call, h.1, h.2]
  rfl

/-- The pieces of work one operation of process `p` can consist of, when it starts parked at `ps` with the system `s`: it fails
or parks again at once (`hlag`: in the lag wait only with the event `Recv` just answered in hand, and only a process with a
consume lag, which the delete consumer has not); one relay cycle (the outbox process);
one poll (a timeout poller); the delivery of one event of its topic - the one it waited on, or the one `Recv` answered. -/
inductive Work (cfg : Cfg) (p : Proc) (ps : PState) (s : Sys) : M PState → Prop
  | fail (a : Abort) : Work cfg p ps s (throwA a)
  | park (ps' : PState) (hlag : ∀ i u, ps' = .lagWait i u → ps = .atRecv ∧ s.nextIndex p = some i ∧ 0 < procLag cfg p) :
      Work cfg p ps s (pure ps')
  | relay (h : p = .outbox) : Work cfg p ps s (do relayOp cfg; pure .needRole)
  | poll (status : Status) (since : Int) (h : p = .poller status) :
      Work cfg p ps s (do pollOp cfg p status since; let s ← getSys; pure (.atPoll s.now))
  | deliver (i : Nat) (e : Event) (he : s.log[i]? = some e) (hsub : subscribed p e = true)
      (hfrom : (∃ u, ps = .lagWait i u) ∨ ps = .atRecv ∧ s.nextIndex p = some i) :
      Work cfg p ps s (do deliver cfg p i e; pure .atRecv)

/-- the body of an operation is one piece of work, begun in a state with the system and the read staleness the operation started
with: what comes before the work (`await`, opening the receiver, `Recv`) has no effect on either -/
theorem procBody_work (cfg : Cfg) (p : Proc) (ps : PState) (env : Env) (st : OpSt) :
    ∃ w st1, Work cfg p ps st.sys w ∧ st1.sys = st.sys ∧ st1.stale = st.stale ∧ procBody cfg p ps env st = w env st1 := by
  unfold procBody
  split
  · -- in back-off: ask for the role again
    exact ⟨_, st, .park .needRole nofun, rfl, rfl, rfl⟩
  · -- at the role gate: the relay cycle, the first poll instant, or a new receiver
    rw [bind_run]
    simp only [emit]
    split
    · exact ⟨_, { st with obs := "await" :: st.obs }, .relay rfl, rfl, rfl, rfl⟩
    · exact ⟨_, { st with obs := "await" :: st.obs }, .park (.atPoll st.sys.now) nofun, rfl, rfl, rfl⟩
    · unfold newReceiver
      rw [bind_run]
      obtain ⟨h1, h2⟩ := call_ro_snd (l := s!"newrecv({topicOf p})") (eff := fun s => ("", (.ok () : Except Abort Unit), s))
        env { st with obs := "await" :: st.obs } rfl
      generalize call _ _ env _ = x at h1 h2
      rcases x with ⟨a | _, st1⟩
      · exact ⟨_, st1, .fail a, h1, h2, rfl⟩
      · exact ⟨_, st1, .park .atRecv nofun, h1, h2, rfl⟩
  · -- at the poll gate
    split
    · exact ⟨_, st, .poll _ _ rfl, rfl, rfl, rfl⟩
    · exact ⟨_, st, .park _ (by nofun), rfl, rfl, rfl⟩
  · -- at `Recv`: the call, then the lag test on the event it answered
    unfold recvOp
    rw [getSys_bind]
    cases hi : st.sys.nextIndex p with
    | none => exact ⟨_, st, .fail _, rfl, rfl, rfl⟩
    | some i =>
      obtain ⟨⟨e, he, hsub⟩, _⟩ := nextIndex_spec hi
      obtain ⟨h1, h2⟩ := call_ro_snd (l := "recv") (eff := fun s => ("(" ++ evStr i e ++ ")", (.ok () : Except Abort Unit), s))
        env st rfl
      simp only [he]
      rw [bind_run]
      generalize call _ _ env _ = x at h1 h2
      rcases x with ⟨a | _, st1⟩
      · exact ⟨_, st1, .fail a, h1, h2, rfl⟩
      · dsimp only
        split
        · next hw =>
          exact ⟨_, st1, .park _ fun i' u' h => by cases h; exact ⟨rfl, hi, ((mustWait_iff _ _).mp hw).1⟩, h1, h2, rfl⟩
        · exact ⟨_, st1, .deliver i e he hsub (Or.inr ⟨rfl, hi⟩), h1, h2, rfl⟩
  · -- after the lag wait: the event in hand
    next i u =>
    rw [getSys_bind]
    cases he : st.sys.log[i]? with
    | none => exact ⟨_, st, .fail _, rfl, rfl, rfl⟩
    | some e =>
      dsimp only
      split
      · next hsub => exact ⟨_, st, .deliver i e he hsub (Or.inl ⟨u, rfl⟩), rfl, rfl, rfl⟩
      · exact ⟨_, st, .fail _, rfl, rfl, rfl⟩

/-- `runOnce`: the body, then parking the process and nothing else - where the body said after a normal return under a live
lease, at the role gate when the lease is gone, in error back-off otherwise -/
theorem procOp_sys (cfg : Cfg) (p : Proc) (env : Env) (st : OpSt) :
    let b := procBody cfg p (st.sys.pstate p) env st
    (procOp cfg p env st).2.sys = b.2.sys.setPState p
      (if b.2.cancelled then .needRole else match b.1 with
        | .ok ps' => ps'
        | .error _ => .backoff (b.2.sys.now + cfg.backoffSec)) := by
  unfold procOp
  dsimp only [bind_run, getSys, tryM, isCancelled]
  rcases procBody cfg p (st.sys.pstate p) env st with ⟨r, st1⟩
  cases r with
  | error a => simp only [bind_run, openedReceiver, emitIf_run, getSys, modifySys]
  | ok ps' =>
    rcases st1 with ⟨s1, _, _, _, dead, _, _⟩
    cases dead
    · rfl
    · simp only [bind_run, openedReceiver, emitIf_run, getSys, modifySys]
      rfl

/-- the version gate of `stepConsumer` with the generated comparisons read as what they decide (the statement of `C04_gate`) -/
theorem stepGate_eq (cfg : Cfg) (p : Proc) (pa : Int) (e : Event) (record : Rec) (fn : Rec → M (Except Abort FnRes × Rec)) :
    stepGate cfg p pa e record fn =
      if record.version > e.version then pure ()
      else if record.version < e.version then throwA (.err errStale)
      else if Gen.stopped record.runState then pure ()
      else stepRun cfg p pa record fn := by
  unfold stepGate Gen.G.stepSkipOld Gen.G.stepStale Gen.G.stepStopped
  simp only [decide_eq_true_eq]

/-- an operation the table allows is one `Store` of the record with the target state, whose failure the controller swallows
(`tryM`): the state afterwards is that of the store -/
theorem ctlUpdateMem_allowed (cfg : Cfg) (mem : Rec) (op : RS.CtlOp) (env : Env) (st : OpSt)
    (h : RS.allowed mem.runState (RS.target op) = true) :
    (ctlUpdateMem cfg mem op env st).2 =
      (store cfg { mem with runState := RS.target op, reason := ctlReason op, version := mem.version + 1 } env st).2 := by
  unfold ctlUpdateMem
  rw [if_pos h, bind_run]
  unfold tryM
  rcases store cfg _ env st with ⟨_ | _, _⟩ <;> rfl

theorem ctlUpdateMem_run_ok (cfg : Cfg) (mem : Rec) (op : RS.CtlOp) (env : Env) (st : OpSt)
    (ha : RS.allowed mem.runState (RS.target op) = true) (hl : CallLive env st) :
    let w : Rec := { mem with runState := RS.target op, reason := ctlReason op, version := mem.version + 1 }
    ctlUpdateMem cfg mem op env st = (.ok (w, none), (store cfg w env st).2) := by
  intro w
  unfold ctlUpdateMem
  rw [if_pos ha, bind_run, tryM]
  have h := (store_run_ok cfg w env st hl).1
  rcases hs : store cfg w env st with ⟨r, st'⟩
  rw [hs] at h
  cases h
  rfl

/-- the updater fails without a write (re-read failed or found no run, or `validateTransition` refused), returns normally without
a write (the re-read record has left the status the function ran on), or is the `Store` of the advanced record -/
theorem updater_run (cfg : Cfg) (current next : Status) (run : Rec) (o : Obj) (env : Env) (st : OpSt) :
    (∃ a st', updater cfg current next run o env st = (.error a, st') ∧ st'.sys = st.sys) ∨
    (∃ latest st', updater cfg current next run o env st = (.ok (), st') ∧ st'.sys = st.sys ∧
      (lookupRes st.sys run.runId st.stale).2 = some latest ∧ latest.status ≠ current) ∨
    (∃ latest st', updater cfg current next run o env st = updateRecord cfg (updaterRec cfg next run o st.sys.now) env st' ∧
      st'.sys = st.sys ∧ (lookupRes st.sys run.runId st.stale).2 = some latest ∧ latest.status = current ∧
      validate cfg current next = true) := by
  unfold updater
  rw [getSys_bind]
  rcases lookup_bind run.runId _ env st with ⟨a, st', h, hsys, _⟩ | ⟨st', h, hsys, _⟩ <;> rw [h]
  · exact Or.inl ⟨a, st', rfl, hsys⟩
  · rcases (lookupRes st.sys run.runId st.stale).2 with _ | latest
    · exact Or.inl ⟨_, st', rfl, hsys⟩
    · dsimp only
      cases hg : Gen.G.updaterStatusChanged latest.status current
      · cases hval : validate cfg current next
        · exact Or.inl ⟨_, st', rfl, hsys⟩
        · exact Or.inr (Or.inr ⟨latest, st', rfl, hsys, rfl, Decidable.not_not.mp (of_decide_eq_false hg), rfl⟩)
      · exact Or.inr (Or.inl ⟨latest, st', rfl, hsys, rfl, of_decide_eq_true hg⟩)

end WorkflowModel.Engine
