import WorkflowModel.Model.Engine
/-! # Running the operation monad: equations for `bind`, what one adapter call can do, what a read returns, what a write does

Everything here is about a single run `m env st` of a piece of the engine; no invariant is involved. A handler is its read
followed by what it does with the answer: `lookup_run`, `lookup_bind` and `latest_run` say what the read can do in every
environment, and the property files case on them instead of unfolding the handler's first call. At the end: the facts about
lists and association lists (cursors, process states, error counts) that the later modules share. -/
namespace WorkflowModel.Engine
open WorkflowModel

theorem pure_run {α : Type} (a : α) (env : Env) (st : OpSt) : (pure a : M α) env st = (.ok a, st) := rfl
theorem throwA_run {α : Type} (a : Abort) (env : Env) (st : OpSt) : (throwA a : M α) env st = (.error a, st) := rfl
/-- a user function that fails while its process loses the role: the failure is what the caller sees -/
theorem loseLease_throw_run {α : Type} (a : Abort) (env : Env) (st : OpSt) :
    ((loseLease >>= fun _ => (throwA a : M α)) env st) = (.error a, { st with cancelled := !st.isApi }) := rfl

theorem bind_run {α β : Type} (m : M α) (f : α → M β) (env : Env) (st : OpSt) :
    (m >>= f) env st = match m env st with
      | (.ok a, st') => f a env st'
      | (.error e, st') => (.error e, st') := rfl

theorem getSys_bind {α : Type} (f : Sys → M α) (env : Env) (st : OpSt) : (getSys >>= f) env st = f st.sys env st := rfl

theorem bind_pure_snd {α β : Type} (m : M α) (b : β) (env : Env) (st : OpSt) :
    ((m >>= fun _ => pure b) env st).2 = (m env st).2 := by
  rw [bind_run]
  rcases m env st with ⟨_ | _, _⟩ <;> rfl

theorem tryM_run {α : Type} (m : M α) (env : Env) (st : OpSt) :
    tryM m env st = match m env st with
      | (.ok a, st') => (.ok (.ok a), st')
      | (.error e, st') => (.ok (.error e), st') := rfl

theorem tryM_snd {α : Type} (m : M α) (env : Env) (st : OpSt) : (tryM m env st).2 = (m env st).2 := by
  rw [tryM_run]
  split <;> next h => rw [h]

theorem emitIf_run (c : Bool) (l : String) (env : Env) (st : OpSt) :
    emitIf c l env st = (.ok (), { st with obs := if c then l :: st.obs else st.obs }) := by
  cases c <;> rfl

/-! ## one adapter call

`eff s` is the call's rendering, its value and the new `Sys`, in this order. `call_cases` says all there is to say about `call`;
the other lemmas of this section are read off it. -/

/-- the call meets a live lease and no injected fault -/
def CallLive (env : Env) (st : OpSt) : Prop := st.cancelled = false ∧ env.faults.lookup st.callN = none

section Call
variable {α : Type} {l : String} {eff : Sys → (String × Except Abort α × Sys)} {env : Env} {st st' : OpSt}

theorem call_live (h : CallLive env st) :
    call l eff env st = ((eff st.sys).2.1,
      { st with callN := st.callN + 1, sys := (eff st.sys).2.2, obs := (l ++ (eff st.sys).1) :: st.obs }) := by
  unfold call
  rw [h.1, h.2]
  rfl

/-- a live call applies its effect, counts itself and answers the effect's value; any other call fails, without its effect or (a
fault after the effect) with it -/
theorem call_cases (l : String) (eff : Sys → (String × Except Abort α × Sys)) (env : Env) (st : OpSt) :
    (CallLive env st ∧ call l eff env st = ((eff st.sys).2.1,
      { st with callN := st.callN + 1, sys := (eff st.sys).2.2, obs := (l ++ (eff st.sys).1) :: st.obs })) ∨
    (¬ CallLive env st ∧ ∃ e st', call l eff env st = (.error e, st') ∧ (st'.sys = st.sys ∨ st'.sys = (eff st.sys).2.2) ∧
      st'.outI = st.outI ∧ st'.stale = st.stale) := by
  by_cases h : CallLive env st
  · exact Or.inl ⟨h, call_live h⟩
  · refine Or.inr ⟨h, ?_⟩
    unfold call
    split
    · exact ⟨_, _, rfl, Or.inl rfl, rfl, rfl⟩
    · next hc =>
      split
      · exact ⟨_, _, rfl, Or.inl rfl, rfl, rfl⟩
      · exact ⟨_, _, rfl, Or.inr rfl, rfl, rfl⟩
      · exact ⟨_, _, rfl, Or.inl rfl, rfl, rfl⟩
      · next hf => exact absurd ⟨Bool.eq_false_iff.mpr hc, hf⟩ h

theorem call_sys (l : String) (eff : Sys → (String × Except Abort α × Sys)) (env : Env) (st : OpSt) :
    ((call l eff env st).2.sys = st.sys ∧ ∃ e, (call l eff env st).1 = .error e) ∨
    ((call l eff env st).2.sys = (eff st.sys).2.2) := by
  rcases call_cases l eff env st with ⟨_, h⟩ | ⟨_, e, st', h, hs, _⟩ <;> rw [h]
  · exact Or.inr rfl
  · exact hs.imp (fun h => ⟨h, e, rfl⟩) id

theorem call_stale (env : Env) (st : OpSt) : (call l eff env st).2.stale = st.stale := by
  rcases call_cases l eff env st with ⟨_, h⟩ | ⟨_, e, st', h, _, _, hz⟩ <;> rw [h]
  exact hz

/-- a call without effect on the system: however it ends, the system and the staleness of reads are what they were -/
theorem call_ro_snd (env : Env) (st : OpSt) (h : (eff st.sys).2.2 = st.sys) :
    (call l eff env st).2.sys = st.sys ∧ (call l eff env st).2.stale = st.stale :=
  ⟨(call_sys l eff env st).elim And.left (·.trans h), call_stale env st⟩

/-- a normal return: the call was live, so it went as `call_live` says -/
theorem call_ok {a : α} (h : call l eff env st = (.ok a, st')) :
    CallLive env st ∧ (eff st.sys).2.1 = .ok a ∧
    st' = { st with callN := st.callN + 1, sys := (eff st.sys).2.2, obs := (l ++ (eff st.sys).1) :: st.obs } := by
  rcases call_cases l eff env st with ⟨hl, hc⟩ | ⟨_, e, st'', hc, _⟩ <;> rw [hc] at h
  · obtain ⟨hv, rfl⟩ := Prod.mk.inj h
    exact ⟨hl, hv, rfl⟩
  · cases h

theorem call_err {e : Abort} (h : call l eff env st = (.error e, st')) :
    (st'.sys = st.sys ∨ st'.sys = (eff st.sys).2.2) ∧ st'.outI = st.outI ∧ st'.stale = st.stale := by
  rcases call_cases l eff env st with ⟨_, hc⟩ | ⟨_, e', st'', hc, hr⟩ <;> rw [hc] at h
  · obtain ⟨_, rfl⟩ := Prod.mk.inj h
    exact ⟨Or.inr rfl, rfl, rfl⟩
  · cases h
    exact hr

end Call

/-- `Lookup` is the one read that may lag, and only the first of an operation does: it answers from `st.stale` writes back and
leaves `stale = 0`, however it ends (`latest` never lags and leaves the staleness alone). `CallLive` does not look at `stale`,
so the call made at `stale := 0` is live exactly when one made at `st` is. -/
theorem lookup_run (rid : RunId) (env : Env) (st : OpSt) :
    (∃ a st', lookup rid env st = (.error a, st') ∧ st'.sys = st.sys ∧ st'.outI = st.outI ∧ st'.stale = 0 ∧ ¬ CallLive env st) ∨
    (∃ st', lookup rid env st = (.ok (lookupRes st.sys rid st.stale).2, st') ∧ st'.sys = st.sys ∧ st'.outI = st.outI ∧
      st'.stale = 0 ∧ st'.cancelled = false ∧ st'.isApi = st.isApi) := by
  unfold lookup
  rcases call_cases "lookup" _ env { st with stale := 0 } with ⟨hl, h⟩ | ⟨hnl, a, st', h, hs, ho, hz⟩ <;> rw [h]
  · exact Or.inr ⟨_, rfl, rfl, rfl, rfl, hl.1, rfl⟩
  · exact Or.inl ⟨a, st', rfl, hs.elim id id, ho, hz, hnl⟩

theorem lookup_bind {α : Type} (rid : RunId) (f : Option Rec → M α) (env : Env) (st : OpSt) :
    (∃ a st', (lookup rid >>= f) env st = (.error a, st') ∧ st'.sys = st.sys ∧ st'.outI = st.outI ∧ st'.stale = 0 ∧
      ¬ CallLive env st) ∨
    (∃ st', (lookup rid >>= f) env st = f (lookupRes st.sys rid st.stale).2 env st' ∧ st'.sys = st.sys ∧ st'.outI = st.outI ∧
      st'.stale = 0 ∧ st'.cancelled = false ∧ st'.isApi = st.isApi) := by
  rcases lookup_run rid env st with ⟨a, st', hl, h⟩ | ⟨st', hl, h⟩
  · exact Or.inl ⟨a, st', by rw [bind_run, hl], h⟩
  · exact Or.inr ⟨st', by rw [bind_run, hl], h⟩

theorem latest_run (fid : Fid) (env : Env) (st : OpSt) :
    (∃ a st', latest fid env st = (.error a, st') ∧ st'.sys = st.sys ∧ st'.outI = st.outI ∧ st'.stale = st.stale) ∨
    (∃ st', latest fid env st = (.ok (latestRes st.sys fid), st') ∧ st'.sys = st.sys ∧ st'.outI = st.outI ∧ st'.stale = st.stale) := by
  unfold latest
  rcases call_cases "latest" _ env st with ⟨_, h⟩ | ⟨_, a, st', h, hs, ho, hz⟩ <;> rw [h]
  · exact Or.inr ⟨_, rfl, rfl, rfl, rfl⟩
  · exact Or.inl ⟨a, st', rfl, hs.elim id id, ho, hz⟩

theorem lookupRes_fresh (s : Sys) (rid : RunId) : (lookupRes s rid 0).2 = s.cur rid := by
  unfold lookupRes Sys.cur
  -- no such run, a run without history, or index 0 of a history that has a head
  rcases s.runs[rid]? with _ | ⟨fid, _ | ⟨a, t⟩⟩ <;> rfl

theorem store_run_ok (cfg : Cfg) (r : Rec) (env : Env) (st : OpSt) (h : CallLive env st) :
    (store cfg r env st).1 = .ok () ∧ (store cfg r env st).2.sys = st.sys.write cfg r ∧ (store cfg r env st).2.outI = st.outI := by
  unfold Engine.store
  rw [call_live h]
  exact ⟨rfl, rfl, rfl⟩

theorem store_run_any (cfg : Cfg) (r : Rec) (env : Env) (st : OpSt) :
    ((store cfg r env st).2.sys = st.sys ∨ (store cfg r env st).2.sys = st.sys.write cfg r) ∧ (store cfg r env st).2.outI = st.outI := by
  unfold Engine.store
  rcases call_cases "store" _ env st with ⟨_, h⟩ | ⟨_, e, st', h, hs, ho, _⟩ <;> rw [h]
  · exact ⟨Or.inr rfl, rfl⟩
  · exact ⟨hs, ho⟩

theorem store_ok {cfg : Cfg} {r : Rec} {env : Env} {st : OpSt} (h : (store cfg r env st).1 = .ok ()) :
    (store cfg r env st).2.sys = st.sys.write cfg r := by
  unfold Engine.store at h ⊢
  rcases call_cases "store" _ env st with ⟨_, hc⟩ | ⟨_, e, st', hc, _⟩ <;> rw [hc] at h ⊢
  cases h

/-- the record as the store persists it: a stamping store (`cfg.stamp`, as the SQL store does) replaces the update time -/
def Sys.stamped (s : Sys) (cfg : Cfg) (r : Rec) : Rec := if cfg.stamp then { r with updatedAt := s.now } else r

theorem stamped_eq (s : Sys) (cfg : Cfg) (r : Rec) : ∃ t, s.stamped cfg r = { r with updatedAt := t } := by
  unfold Sys.stamped
  split
  · exact ⟨_, rfl⟩
  · exact ⟨r.updatedAt, rfl⟩

/-- the histories after a write of `w` (already stamped) -/
def writeRuns (R : List RunS) (w : Rec) : List RunS :=
  if w.runId < R.length
  then R.mapIdx (fun i x => if i = w.runId then { x with hist := w :: x.hist } else x)
  else R ++ [{ fid := w.fid, hist := [w] }]

theorem write_eq (s : Sys) (cfg : Cfg) (r : Rec) : s.write cfg r =
    { s with runs := writeRuns s.runs (s.stamped cfg r),
             outbox := s.outbox ++ [{ ord := s.outN, ev := Routing.route (s.stamped cfg r) }], outN := s.outN + 1 } := rfl

theorem write_runs' (s : Sys) (cfg : Cfg) (r : Rec) : (s.write cfg r).runs = writeRuns s.runs (s.stamped cfg r) := rfl

/-- the run a write of `w` leaves at the index it goes to: `w` on top of the run that was there, or a new run -/
def pushRec (w : Rec) : Option RunS → RunS
  | some x => { x with hist := w :: x.hist }
  | none => { fid := w.fid, hist := [w] }

theorem mem_pushRec (w : Rec) (o : Option RunS) : w ∈ (pushRec w o).hist := by
  cases o <;> exact List.mem_cons_self ..

/-- a write changes one index of the run list: that of its run, or the end of the list when there is no such run -/
theorem getElem?_writeRuns (R : List RunS) (w : Rec) (i : Nat) :
    (writeRuns R w)[i]? = if i = min w.runId R.length then some (pushRec w R[i]?) else R[i]? := by
  unfold writeRuns
  split
  · next hlt =>
    rw [List.getElem?_mapIdx, Nat.min_eq_left (Nat.le_of_lt hlt)]
    split
    · next hi => rw [hi, List.getElem?_eq_getElem hlt]; simp [pushRec]
    · cases R[i]? <;> simp
  · next hge =>
    rw [Nat.min_eq_right (Nat.le_of_not_lt hge)]
    split
    · next hi => rw [hi, List.getElem?_append_right (Nat.le_refl _), List.getElem?_eq_none (Nat.le_refl _), Nat.sub_self]; rfl
    · next hi =>
      rcases Nat.lt_or_gt_of_ne hi with h | h
      · exact List.getElem?_append_left h
      · rw [List.getElem?_eq_none (Nat.le_of_lt h), List.getElem?_eq_none (by rw [List.length_append]; exact h)]

theorem head_writeRuns {R : List RunS} {w : Rec} (hle : w.runId ≤ R.length) :
    ((writeRuns R w)[w.runId]?).bind (·.hist.head?) = some w := by
  rw [getElem?_writeRuns, if_pos (Nat.min_eq_left hle).symm]
  cases R[w.runId]? <;> rfl

theorem mem_writeRuns (R : List RunS) (w w' : Rec) :
    (∃ run ∈ writeRuns R w, w' ∈ run.hist) ↔ (∃ run ∈ R, w' ∈ run.hist) ∨ w' = w := by
  constructor
  · rintro ⟨run, hrun, hw⟩
    obtain ⟨i, hi⟩ := List.getElem?_of_mem hrun
    rw [getElem?_writeRuns] at hi
    split at hi
    · cases hi
      cases hR : R[i]? with
      | none => rw [hR] at hw; exact Or.inr (List.mem_singleton.mp hw)
      | some x =>
        rw [hR] at hw
        exact (List.mem_cons.mp hw).symm.imp (fun h => ⟨x, List.mem_of_getElem? hR, h⟩) id
    · exact Or.inl ⟨run, List.mem_of_getElem? hi, hw⟩
  · rintro (⟨run, hrun, hw⟩ | rfl)
    · obtain ⟨i, hi⟩ := List.getElem?_of_mem hrun
      have := getElem?_writeRuns R w i
      split at this
      · exact ⟨_, List.mem_of_getElem? this, by rw [hi]; exact List.mem_cons_of_mem _ hw⟩
      · exact ⟨run, List.mem_of_getElem? (this.trans hi), hw⟩
    · exact ⟨_, List.mem_of_getElem? ((getElem?_writeRuns R w' _).trans (if_pos rfl)), mem_pushRec w' _⟩

theorem getElem?_append_some {α : Type} {l : List α} {i : Nat} {a : α} (l' : List α) (h : l[i]? = some a) : (l ++ l')[i]? = some a := by
  rw [List.getElem?_append_left (List.getElem?_eq_some_iff.mp h).1]; exact h

theorem lookup_map_set {α β : Type} [BEq α] [LawfulBEq α] (l : List (α × β)) (k k' : α) (v : β) :
    List.lookup k' (l.map (fun p => if p.1 == k then (k, v) else p)) =
      if k' == k then (if l.any (·.1 == k) then some v else none) else l.lookup k' := by
  induction l with
  | nil => simp
  | cons c cs ih =>
    obtain ⟨a, b⟩ := c
    rw [List.map_cons, List.any_cons]
    by_cases hak : a = k
    · subst hak
      simp only [beq_self_eq_true, if_true, Bool.true_or, List.lookup_cons]
      cases hk : k' == a
      · simp only [Bool.false_eq_true, if_false, ih, hk]
      · rfl
    · rw [beq_false_of_ne hak, if_neg Bool.false_ne_true, Bool.false_or, List.lookup_cons, List.lookup_cons, ih]
      cases hk : k' == a
      · rfl
      · rw [eq_of_beq hk, beq_false_of_ne hak]; rfl

theorem lookup_assocSet {α β : Type} [BEq α] [LawfulBEq α] (l : List (α × β)) (k k' : α) (v : β) :
    (assocSet l k v).lookup k' = if k' == k then some v else l.lookup k' := by
  unfold assocSet
  split
  · next h => rw [lookup_map_set, h, if_pos rfl]
  · next h =>
    rw [List.lookup_append, List.lookup_cons, List.lookup_nil]
    cases hk : k' == k
    · exact Option.or_none
    · rw [List.lookup_eq_none_iff.mpr fun p hp => ?_]
      · rfl
      · rw [eq_of_beq hk]
        exact bne_iff_ne.mpr fun he => h (List.any_eq_true.mpr ⟨p, hp, he ▸ beq_self_eq_true _⟩)

theorem pstate_setPState_ne (s : Sys) (p p' : Proc) (x : PState) (h : p' ≠ p) : (s.setPState p x).pstate p' = s.pstate p' := by
  simp [Sys.pstate, Sys.setPState, lookup_assocSet, h]

theorem cursor_setCursor_ne (s : Sys) (p p' : Proc) (n : Nat) (h : p' ≠ p) : (s.setCursor p n).cursor p' = s.cursor p' := by
  simp [Sys.cursor, Sys.setCursor, lookup_assocSet, h]

theorem pstate_setPState (s : Sys) (p : Proc) (x : PState) : (s.setPState p x).pstate p = x := by
  simp [Sys.pstate, Sys.setPState, lookup_assocSet]

theorem cursor_setCursor (s : Sys) (p : Proc) (n : Nat) : (s.setCursor p n).cursor p = n := by
  simp [Sys.cursor, Sys.setCursor, lookup_assocSet]

theorem count_setCount (s : Sys) (k : Int × Proc × RunId) (v : Int) : (s.setCount k v).count k = v := by
  simp [Sys.count, Sys.setCount, lookup_assocSet]

end WorkflowModel.Engine
