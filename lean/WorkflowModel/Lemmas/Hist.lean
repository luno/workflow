import WorkflowModel.Lemmas.Run
import WorkflowModel.Props.C03Table
import WorkflowModel.Model.HistCheck
/-! # The write history of every run: what a legal history is, and when a write extends one

`HistInv cfg s`: every run of `s` has a non-empty history (newest first) that starts with a legal first write
(`InitOK`) and in which every later write is an `Edge` from the write before it: version + 1, identity and creation time
unchanged, and one of
* a controller edge — status and object untouched (the description follows the status in every record), run state along the controller table (from the stored
  state, or from the state as user functions see it, `RS.view`),
* a status advance — from Initiated/Running along a declared transition, to Running, or Completed iff the destination is
  terminal,
* the delete consumer's write — from RequestedDataDeleted/DataDeleted to DataDeleted, status untouched.

`Legal cfg R w`: the write `w` extends the histories `R` legally. `HistInv.write`: a legal write preserves the invariant.
The same for at most one unfinished run per foreign ID (`OneUnf`, `LegalNew`, `OneUnf.writeRuns`); what a read of the
histories returns (`curR`, `latestR`, `IsHead`, `HeadSat`); the executable mirrors of `Model/HistCheck.lean`.
Which operations only make legal writes is `Lemmas/HistOps.lean`.

Run states appear as the numbers of runstate.go: 1 Initiated, 2 Running, 3 Paused, 4 Cancelled, 5 Completed, 6 DataDeleted,
7 RequestedDataDeleted. -/
namespace WorkflowModel.Engine
open WorkflowModel RS

/-- `omega` does not look through the type abbreviations of `Basic.lean` in hypotheses; unfold them first -/
macro "womega" : tactic => `(tactic| (
  (try unfold RunState at *); (try unfold Status at *); (try unfold RunId at *); (try unfold Fid at *);
  (try unfold Obj at *); (try unfold Time at *); omega))

structure RecOK (cfg : Cfg) (w : Rec) : Prop where
  lo : 1 ≤ w.runState
  hi : w.runState ≤ 7
  completedTerminal : w.runState = 5 → Graph.isTerminal cfg.graph w.status = true
  descr : w.descr = w.status

/-- the first write of a run -/
structure InitOK (cfg : Cfg) (w : Rec) : Prop where
  version : w.version = 1
  runState : w.runState = 1
  valid : Graph.isValid cfg.graph w.status = true

/-- `b` is a legal successor of the persisted record `a` -/
structure Edge (cfg : Cfg) (a b : Rec) : Prop where
  version : b.version = a.version + 1
  runId : b.runId = a.runId
  fid : b.fid = a.fid
  createdAt : b.createdAt = a.createdAt
  kind :
    (b.status = a.status ∧ b.obj = a.obj ∧
      (allowed a.runState b.runState = true ∨ allowed (view a.runState) b.runState = true)) ∨
    ((a.runState = 1 ∨ a.runState = 2) ∧ (a.status, b.status) ∈ cfg.edges ∧
      b.runState = (if Graph.isTerminal cfg.graph b.status then 5 else 2)) ∨
    ((a.runState = 7 ∨ a.runState = 6) ∧ b.runState = 6 ∧ b.status = a.status)

/-- a history, newest first -/
def Chain (cfg : Cfg) : List Rec → Prop
  | [] => False
  | [w] => InitOK cfg w
  | b :: a :: t => Edge cfg a b ∧ Chain cfg (a :: t)

structure RunOK (cfg : Cfg) (i : Nat) (x : RunS) : Prop where
  chain : Chain cfg x.hist
  ids : ∀ w ∈ x.hist, w.runId = i ∧ w.fid = x.fid
  recs : ∀ w ∈ x.hist, RecOK cfg w

def HistInv (cfg : Cfg) (s : Sys) : Prop := ∀ i x, s.runs[i]? = some x → RunOK cfg i x

/-- the write `w` extends the histories `R` legally -/
def Legal (cfg : Cfg) (R : List RunS) (w : Rec) : Prop :=
  RecOK cfg w ∧
  match R[w.runId]? with
  | some x => w.fid = x.fid ∧ ∃ h t, x.hist = h :: t ∧ Edge cfg h w
  | none => w.runId = R.length ∧ InitOK cfg w

theorem Legal.of_edge {cfg : Cfg} {R : List RunS} {w h : Rec} {x : RunS} {t : List Rec} (hrec : RecOK cfg w)
    (hx : R[w.runId]? = some x) (hf : w.fid = x.fid) (hl : x.hist = h :: t) (he : Edge cfg h w) : Legal cfg R w :=
  ⟨hrec, by rw [hx]; exact ⟨hf, h, t, hl, he⟩⟩

theorem Legal.of_init {cfg : Cfg} {R : List RunS} {w : Rec} (hrec : RecOK cfg w) (hid : w.runId = R.length)
    (hinit : InitOK cfg w) : Legal cfg R w := by
  refine ⟨hrec, ?_⟩
  rw [show R[w.runId]? = none from hid ▸ List.getElem?_eq_none (Nat.le_refl _)]
  exact ⟨hid, hinit⟩

theorem Legal.cases {cfg : Cfg} {R : List RunS} {w : Rec} (hl : Legal cfg R w) :
    (∃ x h t, R[w.runId]? = some x ∧ w.fid = x.fid ∧ x.hist = h :: t ∧ Edge cfg h w) ∨ (w.runId = R.length ∧ InitOK cfg w) := by
  obtain ⟨_, hl⟩ := hl
  cases hR : R[w.runId]? with
  | some x =>
    rw [hR] at hl
    obtain ⟨hf, h, t, hh, he⟩ := hl
    exact Or.inl ⟨x, h, t, rfl, hf, hh, he⟩
  | none => rw [hR] at hl; exact Or.inr hl

/-! ## the update time is not part of legality (a stamping store replaces it) -/

theorem RecOK.setUpdatedAt {cfg : Cfg} {w : Rec} (h : RecOK cfg w) (t : Int) : RecOK cfg { w with updatedAt := t } :=
  ⟨h.lo, h.hi, h.completedTerminal, h.descr⟩

theorem Legal.setUpdatedAt {cfg : Cfg} {R : List RunS} {w : Rec} (h : Legal cfg R w) (t : Int) :
    Legal cfg R { w with updatedAt := t } := by
  rcases h.cases with ⟨x, h0, tl, hR, hf, hh, he⟩ | ⟨hlen, hinit⟩
  · exact .of_edge (h.1.setUpdatedAt t) hR hf hh ⟨he.version, he.runId, he.fid, he.createdAt, he.kind⟩
  · exact .of_init (h.1.setUpdatedAt t) hlen ⟨hinit.version, hinit.runState, hinit.valid⟩

/-! ## a legal write preserves the invariant -/

theorem write_runs (s : Sys) (cfg : Cfg) (r : Rec) :
    (s.write cfg r).runs =
      (let r' := if cfg.stamp then { r with updatedAt := s.now } else r
       if r'.runId < s.runs.length
        then s.runs.mapIdx (fun i x => if i = r'.runId then { x with hist := r' :: x.hist } else x)
        else s.runs ++ [{ fid := r'.fid, hist := [r'] }]) := rfl

theorem Legal.runId_le {cfg : Cfg} {R : List RunS} {w : Rec} (hl : Legal cfg R w) : w.runId ≤ R.length := by
  rcases hl.cases with ⟨x, _, _, hR, _⟩ | ⟨hlen, _⟩
  · exact Nat.le_of_lt (List.getElem?_eq_some_iff.mp hR).1
  · exact Nat.le_of_eq hlen

theorem Legal.writeRuns_getElem? {cfg : Cfg} {R : List RunS} {w : Rec} (hl : Legal cfg R w) (i : Nat) :
    (writeRuns R w)[i]? = if i = w.runId then some (pushRec w R[i]?) else R[i]? := by
  rw [Engine.getElem?_writeRuns, Nat.min_eq_left hl.runId_le]

theorem HistInv.writeRuns {cfg : Cfg} {s s' : Sys} {w : Rec} (h : HistInv cfg s) (hl : Legal cfg s.runs w)
    (hs : s'.runs = writeRuns s.runs w) : HistInv cfg s' := by
  intro i x hx
  rw [hs, hl.writeRuns_getElem?] at hx
  split at hx
  · next hi =>
    subst hi
    cases hx
    rcases hl.cases with ⟨x0, h0, t, hR, hfid, hh, he⟩ | ⟨hlen, hinit⟩
    · rw [hR]
      have hrun := h _ _ hR
      exact { chain := by show Chain cfg (w :: x0.hist); rw [hh]; exact ⟨he, hh ▸ hrun.chain⟩
              ids := List.forall_mem_cons.mpr ⟨⟨rfl, hfid⟩, hrun.ids⟩
              recs := List.forall_mem_cons.mpr ⟨hl.1, hrun.recs⟩ }
    · rw [List.getElem?_eq_none (Nat.le_of_eq hlen.symm)]
      exact { chain := hinit
              ids := fun w' hw' => by rw [List.mem_singleton.mp hw']; exact ⟨rfl, rfl⟩
              recs := fun w' hw' => by rw [List.mem_singleton.mp hw']; exact hl.1 }
  · exact h i x hx

theorem Legal.stamped {cfg : Cfg} {R : List RunS} {w : Rec} (h : Legal cfg R w) (s : Sys) : Legal cfg R (s.stamped cfg w) := by
  obtain ⟨t, ht⟩ := stamped_eq s cfg w
  rw [ht]; exact h.setUpdatedAt t

theorem HistInv.write {cfg : Cfg} {s : Sys} {r : Rec} (h : HistInv cfg s) (hl : Legal cfg s.runs r) :
    HistInv cfg (s.write cfg r) :=
  HistInv.writeRuns h (hl.stamped s) (write_runs' s cfg r)

theorem HistInv.frame {cfg : Cfg} {s s' : Sys} (h : HistInv cfg s) (hr : s'.runs = s.runs) : HistInv cfg s' := by
  intro i x hx; rw [hr] at hx; exact h i x hx

theorem HistInv.init (cfg : Cfg) : HistInv cfg {} := by
  intro i x hx; simp at hx

/-- the persisted record of a run: the head of its history -/
def curR (R : List RunS) (rid : RunId) : Option Rec := (R[rid]?).bind (·.hist.head?)

theorem cur_eq_curR (s : Sys) (rid : RunId) : s.cur rid = curR s.runs rid := rfl

def HeadSat (R : List RunS) (rid : RunId) (P : Rec → Prop) : Prop := ∃ h, curR R rid = some h ∧ P h

theorem HeadSat.imp {R : List RunS} {rid : RunId} {P Q : Rec → Prop} (h : HeadSat R rid P) (hpq : ∀ w, P w → Q w) : HeadSat R rid Q :=
  let ⟨w, hw, hp⟩ := h
  ⟨w, hw, hpq w hp⟩

theorem curR_writeRuns {cfg : Cfg} {R : List RunS} {w : Rec} (hl : Legal cfg R w) : curR (writeRuns R w) w.runId = some w :=
  head_writeRuns hl.runId_le

/-- `h` is the persisted record of its run -/
def IsHead (R : List RunS) (h : Rec) : Prop := ∃ x t, R[h.runId]? = some x ∧ x.hist = h :: t

theorem isHead_of_hist {cfg : Cfg} {s : Sys} (hi : HistInv cfg s) {i : Nat} {x : RunS} {a : Rec} {t : List Rec}
    (hx : s.runs[i]? = some x) (hh : x.hist = a :: t) : IsHead s.runs a ∧ a.runId = i := by
  have hid := ((hi _ _ hx).ids a (by rw [hh]; exact List.mem_cons_self ..)).1
  exact ⟨⟨x, t, by rw [hid]; exact hx, hh⟩, hid⟩

theorem isHead_of_curR {cfg : Cfg} {s : Sys} (hi : HistInv cfg s) {rid : RunId} {h : Rec} (hc : curR s.runs rid = some h) :
    IsHead s.runs h ∧ h.runId = rid := by
  obtain ⟨x, hx, hc⟩ := Option.bind_eq_some_iff.mp hc
  obtain ⟨t, hh⟩ := List.head?_eq_some_iff.mp hc
  exact isHead_of_hist hi hx hh

theorem IsHead.recOK {cfg : Cfg} {s : Sys} (hi : HistInv cfg s) {h : Rec} (hh : IsHead s.runs h) : RecOK cfg h := by
  obtain ⟨x, t, hx, hl⟩ := hh
  exact (hi _ _ hx).recs h (by rw [hl]; simp)

theorem isHead_unique {R : List RunS} {h h' : Rec} (h1 : IsHead R h) (h2 : IsHead R h') (hid : h.runId = h'.runId) : h = h' := by
  obtain ⟨x, t, hx, hl⟩ := h1
  obtain ⟨x', t', hx', hl'⟩ := h2
  rw [hid, hx'] at hx
  cases hx
  rw [hl'] at hl
  exact (List.cons.inj hl).1.symm

theorem curR_of_isHead {R : List RunS} {h : Rec} (hh : IsHead R h) : curR R h.runId = some h := by
  obtain ⟨x, t, hx, hl⟩ := hh
  unfold curR
  rw [hx, Option.bind_some, hl]
  rfl

/-- what `Latest` answers, as a function of the histories -/
def latestR (R : List RunS) (fid : Fid) : Option Rec := (R.reverse.find? (fun r => r.fid == fid)).bind (·.hist.head?)

theorem latestRes_eq (s : Sys) (fid : Fid) : latestRes s fid = latestR s.runs fid := rfl

theorem isHead_of_latestR {cfg : Cfg} {s : Sys} (hi : HistInv cfg s) {fid : Fid} {h : Rec}
    (hl : latestR s.runs fid = some h) : IsHead s.runs h := by
  obtain ⟨x, hf, hl⟩ := Option.bind_eq_some_iff.mp hl
  obtain ⟨t, hh⟩ := List.head?_eq_some_iff.mp hl
  obtain ⟨i, hx⟩ := List.getElem?_of_mem (List.mem_reverse.mp (List.mem_of_find?_eq_some hf))
  exact (isHead_of_hist hi hx hh).1

/-! ## what an edge implies (the property statements) -/

/-- a controller edge taken from the state as user functions see it (`view`: Initiated shown as Running) is a lifecycle edge
from the stored state too: every table row out of Running is one out of Initiated in the documented machine -/
theorem allowed_view_lifecycle (a b : Int) (h : allowed a b = true ∨ allowed (view a) b = true) : Lifecycle a b := by
  have fromRunning : ∀ p ∈ Gen.runStateTransitions, p.1 = 2 → Lifecycle 1 p.2 := by decide
  rcases h with h | h
  · exact C03.C03_table_sound a b h
  · unfold view at h
    split at h
    · rename_i ha
      rw [ha]
      exact fromRunning (2, b) (by simpa [allowed, Gen.RunStateRunning] using h) rfl
    · exact C03.C03_table_sound a b h

theorem Edge.lifecycle {cfg : Cfg} {a b : Rec} (h : Edge cfg a b) : Lifecycle a.runState b.runState := by
  rcases h.kind with ⟨_, _, hk⟩ | ⟨ha, _, hb⟩ | ⟨ha, hb, _⟩
  · exact allowed_view_lifecycle _ _ hk
  · rw [hb]; exact C03.C03_updater_edge _ _ ha
  · rw [hb]; exact C03.C03_delete_edge _ ha.symm

theorem Edge.status {cfg : Cfg} {a b : Rec} (h : Edge cfg a b) : b.status = a.status ∨ (a.status, b.status) ∈ cfg.edges := by
  rcases h.kind with ⟨hs, _⟩ | ⟨_, he, _⟩ | ⟨_, _, hs⟩
  · exact Or.inl hs
  · exact Or.inr he
  · exact Or.inl hs

theorem Edge.obj {cfg : Cfg} {a b : Rec} (h : Edge cfg a b) :
    b.obj = a.obj ∨ (a.status, b.status) ∈ cfg.edges ∨ b.runState = 6 := by
  rcases h.kind with ⟨_, ho, _⟩ | ⟨_, he, _⟩ | ⟨_, hb, _⟩
  · exact Or.inl ho
  · exact Or.inr (Or.inl he)
  · exact Or.inr (Or.inr hb)

theorem Edge.after_rdd {cfg : Cfg} {a b : Rec} (h : Edge cfg a b) (ha : a.runState = 7 ∨ a.runState = 6) :
    b.runState = 7 ∨ b.runState = 6 :=
  (C03.C03_after_rdd _ _ h.lifecycle ha.symm).symm

/-- what every edge carries from the older record to the newer one reaches the newest record from anywhere in the history -/
theorem chain_head_closed {cfg : Cfg} {S : Rec → Prop} (hS : ∀ a b, Edge cfg a b → S a → S b) :
    ∀ (h : Rec) (t : List Rec), Chain cfg (h :: t) → (∃ w ∈ h :: t, S w) → S h
  | h, [], _, ⟨w, hw, hs⟩ => List.mem_singleton.mp hw ▸ hs
  | b, a :: t, hc, ⟨w, hw, hs⟩ => by
    rcases List.mem_cons.mp hw with rfl | hw
    · exact hs
    · exact hS _ _ hc.1 (chain_head_closed hS a t hc.2 ⟨w, hw, hs⟩)

theorem chain_head_after_rdd {cfg : Cfg} : ∀ (l : List Rec) (h : Rec) (t : List Rec), l = h :: t → Chain cfg l →
    (∃ w ∈ l, w.runState = 7) → h.runState = 7 ∨ h.runState = 6 :=
  fun _ h t hl hc ⟨w, hw, h7⟩ =>
    chain_head_closed (S := fun w => w.runState = 7 ∨ w.runState = 6) (fun _ _ he => he.after_rdd) h t (hl ▸ hc) ⟨w, hl ▸ hw, Or.inl h7⟩

/-! ## at most one unfinished run per foreign ID (C09) -/

/-- the persisted record of the run is finished (Completed, Cancelled, RequestedDataDeleted, DataDeleted) -/
def FinHead (x : RunS) : Prop := ∃ h t, x.hist = h :: t ∧ FinishedSpec h.runState

/-- every run that has a LATER run of the same foreign ID is finished -/
def OneUnf (R : List RunS) : Prop :=
  ∀ (i j : Nat) (x y : RunS), i < j → R[i]? = some x → R[j]? = some y → x.fid = y.fid → FinHead x

/-- every run of the foreign ID is finished -/
def OthersFin (R : List RunS) (fid : Fid) : Prop := ∀ (i : Nat) (x : RunS), R[i]? = some x → x.fid = fid → FinHead x

/-- a write that creates a run: every existing run of its foreign ID is finished -/
def LegalNew (R : List RunS) (w : Rec) : Prop := R[w.runId]? = none → OthersFin R w.fid

/-- what `Store` asks of a write to keep the invariant of Lemmas/HistLogic.lean -/
abbrev LegalWrite (cfg : Cfg) (R : List RunS) (w : Rec) : Prop := Legal cfg R w ∧ LegalNew R w

theorem legalNew_existing {R : List RunS} {w : Rec} {x : RunS} (hx : R[w.runId]? = some x) : LegalNew R w := by
  intro hn; rw [hx] at hn; cases hn

theorem LegalNew.stamped {R : List RunS} {w : Rec} (h : LegalNew R w) (s : Sys) (cfg : Cfg) : LegalNew R (s.stamped cfg w) := by
  obtain ⟨t, ht⟩ := stamped_eq s cfg w
  rw [ht]; exact h

theorem OneUnf.writeRuns {cfg : Cfg} {s : Sys} {w : Rec} (ho : OneUnf s.runs) (hl : Legal cfg s.runs w)
    (hn : LegalNew s.runs w) : OneUnf (writeRuns s.runs w) := by
  intro i j x y hij hx hy hfid
  rw [hl.writeRuns_getElem?] at hx hy
  split at hx
  · -- the run written to has a later run: so it was there before, was finished, and `w` is an edge from its finished head
    next hi =>
    rw [if_neg (by omega)] at hy
    cases hx
    rcases hl.cases with ⟨x0, h0, t0, hR, _, hh0, he⟩ | ⟨hlen, _⟩
    · rw [hi, hR] at hfid ⊢
      obtain ⟨h1, t1, hh1, hf1⟩ := ho i j x0 y hij (hi ▸ hR) hy hfid
      rw [hh0] at hh1
      cases hh1
      exact ⟨w, _, rfl, C03.C03_finished_closed _ _ he.lifecycle hf1⟩
    · have := (List.getElem?_eq_some_iff.mp hy).1
      womega
  · split at hy
    · -- the later run is the one written to: it keeps its foreign ID, or it is new and `LegalNew` speaks
      next hj =>
      cases hy
      cases hR : s.runs[j]? with
      | some y0 => rw [hR] at hfid; exact ho i j x y0 hij hx hR hfid
      | none => rw [hR] at hfid; exact hn (hj ▸ hR) i x hx hfid
    · exact ho i j x y hij hx hy hfid

/-- what `Latest` looks at: the last run of the foreign ID -/
theorem othersFin_of_last {R : List RunS} (ho : OneUnf R) (fid : Fid)
    (hlast : ∀ y, R.reverse.find? (fun r => r.fid == fid) = some y → FinHead y) : OthersFin R fid := by
  intro i x hx hxf
  have hpx : (x.fid == fid) = true := beq_iff_eq.mpr hxf
  cases hf : R.reverse.find? (fun r => r.fid == fid) with
  | none => exact absurd hpx (List.find?_eq_none.mp hf x (List.mem_reverse.mpr (List.mem_of_getElem? hx)))
  | some y =>
    -- `y` is the last run of the foreign ID: the list is `bs.reverse ++ y :: as.reverse` with no such run in `as`
    obtain ⟨hp, as, bs, hsplit, has⟩ := List.find?_eq_some_iff_append.mp hf
    have hR : R = bs.reverse ++ y :: as.reverse := by simpa using congrArg List.reverse hsplit
    have hjy : R[bs.reverse.length]? = some y := by rw [hR, List.getElem?_append_right (Nat.le_refl _)]; simp
    rcases Nat.lt_or_ge i bs.reverse.length with hlt | hge
    · exact ho i _ x y hlt hx hjy (hxf.trans (eq_of_beq hp).symm)
    · rw [hR, List.getElem?_append_right hge] at hx
      cases hk : i - bs.reverse.length with
      | zero => rw [hk] at hx; cases hx; exact hlast _ hf
      | succ k =>
        rw [hk, List.getElem?_cons_succ] at hx
        have := has x (List.mem_reverse.mp (List.mem_of_getElem? hx))
        rw [hpx] at this
        cases this

/-! ## the executable mirrors: `histOK` decides `HistInv`, `oneUnfB` follows from `OneUnf` -/

theorem recOKb_iff (cfg : Cfg) (w : Rec) : recOKb cfg w = true ↔ RecOK cfg w := by
  unfold recOKb
  simp only [Bool.and_eq_true, decide_eq_true_eq, Bool.or_eq_true, bne_iff_ne, ne_eq, beq_iff_eq]
  exact ⟨fun ⟨⟨⟨h1, h2⟩, h3⟩, h4⟩ => ⟨h1, h2, h3.neg_resolve_left, h4⟩,
    fun h => ⟨⟨⟨h.lo, h.hi⟩, Decidable.not_or_of_imp h.completedTerminal⟩, h.descr⟩⟩

theorem initOKb_iff (cfg : Cfg) (w : Rec) : initOKb cfg w = true ↔ InitOK cfg w := by
  unfold initOKb
  simp only [Bool.and_eq_true, beq_iff_eq]
  exact ⟨fun ⟨⟨a, b⟩, c⟩ => ⟨a, b, c⟩, fun h => ⟨⟨h.version, h.runState⟩, h.valid⟩⟩

theorem edgeb_iff (cfg : Cfg) (a b : Rec) : edgeb cfg a b = true ↔ Edge cfg a b := by
  unfold edgeb
  simp only [Bool.and_eq_true, Bool.or_eq_true, beq_iff_eq, List.contains_iff_mem, and_assoc, or_assoc]
  exact ⟨fun ⟨h1, h2, h3, h4, hk⟩ => ⟨h1, h2, h3, h4, hk⟩, fun h => ⟨h.version, h.runId, h.fid, h.createdAt, h.kind⟩⟩

theorem chainb_iff (cfg : Cfg) : ∀ l : List Rec, chainb cfg l = true ↔ Chain cfg l
  | [] => by simp [chainb, Chain]
  | [w] => by simp [chainb, Chain, initOKb_iff]
  | b :: a :: t => by
    simp only [chainb, Chain, Bool.and_eq_true, edgeb_iff]
    rw [chainb_iff cfg (a :: t)]

theorem runOKb_iff (cfg : Cfg) (i : Nat) (x : RunS) : runOKb cfg i x = true ↔ RunOK cfg i x := by
  unfold runOKb
  simp only [Bool.and_eq_true, chainb_iff, List.all_eq_true, beq_iff_eq, recOKb_iff]
  exact ⟨fun ⟨c, h⟩ => ⟨c, fun w hw => ⟨(h w hw).1.1, (h w hw).1.2⟩, fun w hw => (h w hw).2⟩,
    fun h => ⟨h.chain, fun w hw => ⟨h.ids w hw, h.recs w hw⟩⟩⟩

theorem histOK_iff (cfg : Cfg) (s : Sys) : histOK cfg s = true ↔ HistInv cfg s := by
  unfold histOK HistInv
  simp only [List.all_eq_true, runOKb_iff]
  exact ⟨fun h i x hx => h (x, i) (List.mem_zipIdx_iff_getElem?.mpr hx),
    fun h ⟨x, i⟩ hp => h i x (List.mem_zipIdx_iff_getElem?.mp hp)⟩

theorem finHeadB_of {x : RunS} (h : FinHead x) : finHeadB x = true := by
  obtain ⟨h0, t, hl, hf⟩ := h
  unfold finHeadB
  rw [hl]
  simp only [List.head?_cons]
  unfold FinishedSpec at hf
  rcases hf with h | h | h | h <;> simp [h]

theorem oneUnfB_of {s : Sys} (h : OneUnf s.runs) : oneUnfB s = true := by
  unfold oneUnfB
  simp only [List.all_eq_true, List.mem_range]
  intro i _ j _
  by_cases hij : i < j
  · simp only [hij, decide_true, Bool.not_true, Bool.false_or]
    split
    · next x y hx hy =>
      by_cases hf : x.fid = y.fid
      · simp [finHeadB_of (h i j x y hij hx hy hf)]
      · simp [hf]
    · rfl
  · simp [hij]

end WorkflowModel.Engine
