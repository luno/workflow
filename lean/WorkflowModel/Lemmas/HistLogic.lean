import WorkflowModel.Lemmas.Hist
import WorkflowModel.Lemmas.Relay
/-! # A Hoare logic for the operation monad, over the write histories

`HT cfg env P m Q`: run `m` in environment `env` (fault plan, user-function outcomes) from a state that satisfies the
invariant `Inv` (legal histories, the relay invariant, at most one unfinished run per foreign ID), whose next read is current (`stale = 0`) and whose histories satisfy
`P`. Then — wherever the fault plan cuts the operation — the final state satisfies `Inv` again and reads stay current;
and if `m` returns normally with `a`, the histories satisfy `Q a`. Pre- and postconditions speak about the histories
(`Sys.runs`) only: nothing but `Store` changes them, so every other adapter call is a frame step. -/
namespace WorkflowModel.Engine
open WorkflowModel

structure Inv (cfg : Cfg) (s : Sys) : Prop where
  hist : HistInv cfg s
  relay : RelayInv s
  one : OneUnf s.runs

theorem Inv.frame {cfg : Cfg} {s s' : Sys} (h : Inv cfg s) (hr : s'.runs = s.runs) (hrel : RelayInv s') : Inv cfg s' :=
  ⟨h.hist.frame hr, hrel, by rw [hr]; exact h.one⟩

theorem Inv.init (cfg : Cfg) : Inv cfg {} := ⟨HistInv.init cfg, RelayInv.init, fun i j x y _ hx => by simp at hx⟩

theorem Inv.write {cfg : Cfg} {s : Sys} {w : Rec} (hi : Inv cfg s) (hl : Legal cfg s.runs w) (hn : LegalNew s.runs w) :
    Inv cfg (s.write cfg w) :=
  ⟨hi.hist.write hl, hi.relay.write cfg w, hi.one.writeRuns (hl.stamped s) (hn.stamped s cfg)⟩

def HT (cfg : Cfg) (env : Env) {α : Type} (P : List RunS → Prop) (m : M α) (Q : α → List RunS → Prop) : Prop :=
  ∀ st : OpSt, Inv cfg st.sys → st.stale = 0 → P st.sys.runs →
    Inv cfg (m env st).2.sys ∧ (m env st).2.stale = 0 ∧ ∀ a, (m env st).1 = .ok a → Q a (m env st).2.sys.runs

variable {cfg : Cfg} {env : Env} {α β : Type} {P P' : List RunS → Prop} {Q Q' : α → List RunS → Prop}

theorem HT.pure {a : α} (h : ∀ R, P R → Q a R) : HT cfg env P (Pure.pure a : M α) Q := by
  intro st hi hz hp
  exact ⟨hi, hz, fun b hb => by cases hb; exact h _ hp⟩

theorem HT.bind {m : M α} {f : α → M β} {R : β → List RunS → Prop}
    (h1 : HT cfg env P m Q) (h2 : ∀ a, HT cfg env (Q a) (f a) R) : HT cfg env P (m >>= f) R := by
  intro st hi hz hp
  obtain ⟨hi', hz', hq⟩ := h1 st hi hz hp
  rw [bind_run]
  rcases hm : m env st with ⟨r, st'⟩
  rw [hm] at hi' hz' hq
  cases r with
  | ok a => exact h2 a st' hi' hz' (hq a rfl)
  | error e => exact ⟨hi', hz', fun a h => by cases h⟩

/-- strengthen the precondition; the invariant may be used -/
theorem HT.pre {m : M α} (hp : ∀ s, Inv cfg s → P s.runs → P' s.runs) (h : HT cfg env P' m Q) : HT cfg env P m Q :=
  fun st hi hz hpp => h st hi hz (hp st.sys hi hpp)

/-- weaken the postcondition; the invariant may be used -/
theorem HT.post {m : M α} (h : HT cfg env P m Q') (hq : ∀ a s, Inv cfg s → Q' a s.runs → Q a s.runs) : HT cfg env P m Q := by
  intro st hi hz hp
  obtain ⟨hi', hz', hq'⟩ := h st hi hz hp
  exact ⟨hi', hz', fun a ha => hq a _ hi' (hq' a ha)⟩

/-- a triple, used on a state of the engine: `runM` starts the operation with the staleness the environment chose -/
theorem HT.run {m : M α} (h : HT cfg env P m Q) {s : Sys} (hi : Inv cfg s) (hz : env.stale = 0) (hp : P s.runs) (api : Bool) :
    Inv cfg (runM m env s api).2.sys ∧ ∀ a, (runM m env s api).1 = .ok a → Q a (runM m env s api).2.sys.runs :=
  let ⟨h1, _, h3⟩ := h { sys := s, stale := env.stale, isApi := api } hi hz hp
  ⟨h1, h3⟩

theorem HT.forget {m : M α} (h : HT cfg env P m Q) : HT cfg env P m (fun _ _ => True) := HT.post h fun _ _ _ _ => trivial

theorem HT.done {a : α} : HT cfg env P (Pure.pure a : M α) (fun _ _ => True) := HT.pure fun _ _ => trivial

theorem HT.any {m : M α} (h : HT cfg env (fun _ => True) m Q) : HT cfg env P m Q := HT.pre (fun _ _ _ => trivial) h

/-- fix the histories the operation starts from; what the precondition says about them becomes a hypothesis -/
theorem HT.fix {m : M α} (h : ∀ R0, P R0 → HT cfg env (fun R => R = R0) m Q) : HT cfg env P m Q :=
  fun st hi hz hp => h st.sys.runs hp st hi hz rfl

theorem HT.pull {φ : Prop} {m : M α} (h : φ → HT cfg env P m Q) : HT cfg env (fun R => P R ∧ φ) m Q :=
  fun st hi hz hp => h hp.2 st hi hz hp.1

/-- a state-independent consequence of the precondition (and the invariant) becomes a hypothesis -/
theorem HT.assume {φ : Prop} {m : M α} (hp : ∀ s, Inv cfg s → P s.runs → φ) (h : φ → HT cfg env P m Q) : HT cfg env P m Q :=
  fun st hi hz hpp => h (hp _ hi hpp) st hi hz hpp

/-- `m` leaves the histories alone and keeps reads current, however it ends -/
def Fr {α : Type} (m : M α) : Prop :=
  ∀ env st, (m env st).2.sys.runs = st.sys.runs ∧ ((m env st).2.stale = st.stale ∨ (m env st).2.stale = 0)

theorem Fr.pure (a : α) : Fr (Pure.pure a : M α) := fun _ _ => ⟨rfl, Or.inl rfl⟩
theorem Fr.throwA (a : Abort) : Fr (Engine.throwA a : M α) := fun _ _ => ⟨rfl, Or.inl rfl⟩
theorem Fr.emit (l : String) : Fr (Engine.emit l) := fun _ _ => ⟨rfl, Or.inl rfl⟩
theorem Fr.getSys : Fr Engine.getSys := fun _ _ => ⟨rfl, Or.inl rfl⟩
theorem Fr.nextOutcome : Fr Engine.nextOutcome := fun _ _ => ⟨rfl, Or.inl rfl⟩
theorem Fr.loseLease : Fr Engine.loseLease := fun _ _ => ⟨rfl, Or.inl rfl⟩

theorem Fr.modifySys {f : Sys → Sys} (hf : ∀ s, (f s).runs = s.runs) : Fr (Engine.modifySys f) :=
  fun _ st => ⟨hf st.sys, Or.inl rfl⟩

theorem Fr.lookup (rid : RunId) : Fr (Engine.lookup rid) := by
  intro env st
  rcases lookup_run rid env st with ⟨a, st', hl, hsys, _, hst, _⟩ | ⟨st', hl, hsys, _, hst, _⟩ <;> rw [hl]
  · exact ⟨by rw [hsys], Or.inr hst⟩
  · exact ⟨by rw [hsys], Or.inr hst⟩

theorem Fr.bind {m : M α} {f : α → M β} (h1 : Fr m) (h2 : ∀ a, Fr (f a)) : Fr (m >>= f) := by
  intro env st
  have h := h1 env st
  rw [bind_run]
  generalize m env st = x at h ⊢
  rcases x with ⟨_ | a, st'⟩
  · exact h
  · have h' := h2 a env st'
    exact ⟨h'.1.trans h.1, h'.2.elim (fun e => e ▸ h.2) Or.inr⟩

theorem Fr.tryM {m : M α} (h : Fr m) : Fr (Engine.tryM m) := fun env st => tryM_snd m env st ▸ h env st

theorem Fr.call {l : String} {eff : Sys → (String × Except Abort α × Sys)} (hf : ∀ s, (eff s).2.2.runs = s.runs) :
    Fr (Engine.call l eff) := by
  intro env st
  refine ⟨?_, Or.inl (call_stale env st)⟩
  rcases call_sys l eff env st with ⟨h, _⟩ | h
  · rw [h]
  · rw [h, hf]

theorem Fr.ite {c : Prop} [Decidable c] {a b : M α} (ha : Fr a) (hb : Fr b) : Fr (if c then a else b) := by
  split <;> assumption

theorem Fr.forM {γ : Type} {f : γ → M PUnit} (l : List γ) (h : ∀ x, Fr (f x)) : Fr (l.forM f) := by
  induction l with
  | nil => exact Fr.pure _
  | cons x xs ih => exact Fr.bind (h x) fun _ => ih

/-- a composite operation that never stores: from the unconditional preservation lemmas -/
theorem HT.of_pres {m : M α} (hr : Pres RelayInv m) (hruns : ∀ R, Pres (fun s => s.runs = R) m)
    (hz : ∀ st, st.stale = 0 → (m env st).2.stale = 0) : HT cfg env P m (fun _ => P) := by
  intro st hi hzz hp
  have h1 := hruns st.sys.runs env st rfl
  exact ⟨hi.frame h1 (hr env st hi.relay), hz st hzz, fun _ _ => by rw [h1]; exact hp⟩

theorem HT.of_frame {m : M α} (hf : Fr m) (hr : Pres RelayInv m) : HT cfg env P m (fun _ => P) :=
  HT.of_pres hr (fun _ env st h => (hf env st).1.trans h) fun st hz => (hf env st).2.elim (·.trans hz) id

theorem HT.modifySys {f : Sys → Sys} (hf : ∀ s, (f s).runs = s.runs) (hr : ∀ s, RelayInv s → RelayInv (f s)) :
    HT cfg env P (Engine.modifySys f) (fun _ => P) :=
  HT.of_frame (Fr.modifySys hf) (Pres.modifySys hr)

theorem HT.call_frame {l : String} {eff : Sys → (String × Except Abort α × Sys)}
    (hf : ∀ s, (eff s).2.2.runs = s.runs) (hr : ∀ s, RelayInv s → RelayInv (eff s).2.2) :
    HT cfg env P (Engine.call l eff) (fun _ => P) :=
  HT.of_frame (Fr.call hf) (Pres.call hr)

theorem HT.ack (p : Proc) (i : Nat) : HT cfg env P (Engine.ack p i) (fun _ => P) :=
  HT.of_pres (Pres.ack_of p (fun s n => (RelayInv.stable cfg).setCursor s p n) i) (fun _ => Pres.ack_of p (fun _ _ h => h) i)
    fun st hz => by unfold Engine.ack; split <;> exact (call_stale env _).trans hz

theorem HT.throwA (a : Abort) : HT cfg env P (Engine.throwA a : M α) Q :=
  fun _ hi hz _ => ⟨hi, hz, fun _ h => by cases h⟩

theorem HT.getSys : HT cfg env P Engine.getSys (fun s R => P R ∧ s.runs = R ∧ Inv cfg s) :=
  fun _ hi hz hp => ⟨hi, hz, fun a h => by cases h; exact ⟨hp, rfl, hi⟩⟩

theorem HT.emit (l : String) : HT cfg env P (Engine.emit l) (fun _ => P) :=
  fun _ hi hz hp => ⟨hi, hz, fun _ _ => hp⟩

theorem HT.loseLease : HT cfg env P Engine.loseLease (fun _ => P) :=
  fun _ hi hz hp => ⟨hi, hz, fun _ _ => hp⟩

theorem HT.nextOutcome : HT cfg env P Engine.nextOutcome (fun o R => P R ∧ (o ∈ env.outcomes ∨ o = .exhausted)) := by
  intro st hi hz hp
  refine ⟨hi, hz, fun o ho => ⟨hp, ?_⟩⟩
  simp only [Engine.nextOutcome, Except.ok.injEq] at ho
  subst ho
  cases hget : env.outcomes[st.outI]? with
  | none => exact Or.inr rfl
  | some o => exact Or.inl (List.mem_of_getElem? hget)

theorem HT.tryM {m : M α} (h : HT cfg env P m Q) :
    HT cfg env P (Engine.tryM m) (fun r R => ∀ a, r = .ok a → Q a R) := by
  intro st hi hz hp
  obtain ⟨hi', hz', hq⟩ := h st hi hz hp
  unfold Engine.tryM
  rcases hm : m env st with ⟨r, st'⟩
  rw [hm] at hi' hz' hq
  cases r with
  | ok a => exact ⟨hi', hz', fun r hr a' ha' => by cases hr; cases ha'; exact hq a rfl⟩
  | error e => exact ⟨hi', hz', fun r hr a' ha' => by cases hr; cases ha'⟩

theorem HT.lookup (rid : RunId) : HT cfg env P (Engine.lookup rid) (fun v R => P R ∧ v = curR R rid) := by
  intro st hi hz hp
  rcases lookup_run rid env st with ⟨a, st', hl, hsys, _, hst, _⟩ | ⟨st', hl, hsys, _, hst, _⟩
  · rw [hl]
    exact ⟨by rw [hsys]; exact hi, hst, fun _ h => nomatch h⟩
  · rw [hl]
    refine ⟨by rw [hsys]; exact hi, hst, fun a ha => ?_⟩
    cases ha
    show P st'.sys.runs ∧ _ = curR st'.sys.runs rid
    rw [hsys, hz, lookupRes_fresh]
    exact ⟨hp, rfl⟩

/-- a handler's read, then the two cases of its answer: with current reads it finds nothing, or the persisted record of that run -/
theorem HT.lookupThen {f : Option Rec → M β} {Q : β → List RunS → Prop} (rid : RunId)
    (hn : HT cfg env (fun R => P R ∧ curR R rid = none) (f none) Q)
    (hs : ∀ r, r.runId = rid → HT cfg env (fun R => P R ∧ IsHead R r) (f (some r)) Q) :
    HT cfg env P (Engine.lookup rid >>= f) Q :=
  HT.bind (HT.lookup rid) fun v => by
    cases v with
    | none => exact HT.pre (fun _ _ hp => ⟨hp.1, hp.2.symm⟩) hn
    | some r =>
      exact HT.assume (fun s hi hp => (isHead_of_curR hi.hist hp.2.symm).2) fun hid =>
        HT.pre (fun s hi hp => ⟨hp.1, (isHead_of_curR hi.hist hp.2.symm).1⟩) (hs r hid)

theorem HT.latest (fid : Fid) : HT cfg env P (Engine.latest fid) (fun v R => P R ∧ v = latestR R fid) := by
  intro st hi hz hp
  rcases latest_run fid env st with ⟨a, st', hl, hsys, _, hst⟩ | ⟨st', hl, hsys, _, hst⟩ <;> rw [hl]
  · exact ⟨hsys ▸ hi, hst.trans hz, fun _ h => nomatch h⟩
  · refine ⟨hsys ▸ hi, hst.trans hz, fun a ha => ?_⟩
    cases ha
    show P st'.sys.runs ∧ _ = latestR st'.sys.runs fid
    rw [hsys]
    exact ⟨hp, rfl⟩

/-- `Store` of a legal write keeps the invariant wherever the call is cut; a normal return means the record is now the
persisted one of its run - as the store stamped it, so with another update time perhaps: the postcondition names the three
fields the callers ask about -/
theorem HT.store (w : Rec) : HT cfg env (fun R => LegalWrite cfg R w) (Engine.store cfg w)
    (fun _ R => HeadSat R w.runId fun h => h.version = w.version ∧ h.runState = w.runState ∧ h.status = w.status) := by
  intro st hi hz hp
  refine ⟨?_, by unfold Engine.store; rw [call_stale]; exact hz, fun _ hok => ?_⟩
  · rcases (store_run_any cfg w env st).1 with h | h <;> rw [h]
    · exact hi
    · exact hi.write hp.1 hp.2
  · rw [store_ok hok, write_runs']
    obtain ⟨t, ht⟩ := stamped_eq st.sys cfg w
    rw [ht]
    exact ⟨_, curR_writeRuns (hp.1.setUpdatedAt t), rfl, rfl, rfl⟩

theorem HT.updateRecord_head (r : Rec) :
    HT cfg env (fun R => LegalWrite cfg R { r with version := r.version + 1 })
      (Engine.updateRecord cfg r)
      (fun _ R => HeadSat R r.runId fun h => h.version = r.version + 1 ∧ h.runState = r.runState ∧ h.status = r.status) := by
  unfold Engine.updateRecord; exact HT.store _

theorem HT.updateRecord (r : Rec) :
    HT cfg env (fun R => Legal cfg R { r with version := r.version + 1 } ∧ LegalNew R { r with version := r.version + 1 })
      (Engine.updateRecord cfg r) (fun _ _ => True) :=
  (HT.updateRecord_head r).forget

theorem HT.forM {γ : Type} {f : γ → M PUnit} (l : List γ) (h : ∀ x, HT cfg env P (f x) (fun _ => P)) :
    HT cfg env P (l.forM f) (fun _ => P) := by
  induction l with
  | nil => exact HT.pure (fun _ hp => hp)
  | cons x xs ih => exact HT.bind (h x) fun _ => ih

end WorkflowModel.Engine
