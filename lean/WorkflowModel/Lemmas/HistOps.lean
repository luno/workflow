import WorkflowModel.Lemmas.HistLogic
import WorkflowModel.Props.C02Engine
import WorkflowModel.Lemmas.Routing
/-! # Every operation of the engine only makes legal writes — when its reads are current

For each write path (controller, updater, delete consumer, trigger) the write is a legal extension of the run's history
provided the record it was built from is the persisted one (`Based`, `UBased`, `IsHead`). Handlers establish that by
reading at the start of the operation and making no other write to the run in between; the triples below thread it through
every handler, the timeout poller and the API calls, for every fault plan and every user-function outcome that does not
re-enter the API (`NoNested`).

The same triples say what a NORMAL RETURN means (C01, C04): on a normal return of a step consumer's handler - the only way
the event gets acknowledged - the announced version is no longer a live head of the run (`Done`): the record had moved on
(old announcement), the run is stopped, or this very operation persisted a write (the step's effect, the pause/cancel it asked
for, or the auto-pause). That half needs user functions that do not answer with a skip value (`NoSkip`: a skip consumes the
event by design); it is carried as a premise `strict` of the postconditions, so that one triple per function serves both.

A triple that relates the histories after the operation to those before takes the latter as a parameter `R0`, with `R = R0` in its
precondition; its user names them with `HT.fix`. -/
namespace WorkflowModel.Engine
open WorkflowModel RS

variable {cfg : Cfg} {env : Env}

/-- the environment never lets a user function re-enter the API -/
def NoNested (env : Env) : Prop := ∀ o ∈ env.outcomes, ∀ x, o ≠ Outcome.nested x

theorem NoNested.of_next {o : Outcome} (hn : NoNested env) (ho : o ∈ env.outcomes ∨ o = .exhausted) (x : Status) : o ≠ .nested x := by
  rcases ho with ho | rfl
  · exact hn o ho x
  · exact fun h => nomatch h

/-- no user function of the operation answers with a skip value -/
def NoSkip (env : Env) : Prop := ∀ o ∈ env.outcomes, ∀ next n, o = Outcome.ret next n → Gen.skipValues.contains next = false

/-- at most one timeout configuration per status (two share one timer and one record read: finding F19) -/
def OneTimeout (cfg : Cfg) : Prop := ∀ s, (cfg.timeoutsAt s).length ≤ 1

/-- a record held in memory (by the controller, by a user function) against the persisted record `h` of its run -/
structure SameRun (mem h : Rec) : Prop where
  runId : mem.runId = h.runId
  version : mem.version = h.version
  fid : mem.fid = h.fid
  createdAt : mem.createdAt = h.createdAt

/-- the run state possibly as `buildRun` shows it: Initiated seen as Running -/
structure Describes (mem h : Rec) : Prop extends SameRun mem h where
  status : mem.status = h.status
  obj : mem.obj = h.obj
  descr : mem.descr = h.descr
  runState : mem.runState = h.runState ∨ mem.runState = view h.runState

def Based (R : List RunS) (mem : Rec) : Prop := ∃ h, IsHead R h ∧ Describes mem h

/-- what the updater is given: the persisted record by identity and version only (it re-reads the contents), and that record
is Initiated, Running or Completed (not stopped; the updater does not test the run state, and Completed goes where a
transition is declared: `not_completed_of_edge`) -/
def UBased (R : List RunS) (run : Rec) : Prop :=
  ∃ h, IsHead R h ∧ SameRun run h ∧ (h.runState = 1 ∨ h.runState = 2 ∨ h.runState = 5)

theorem based_head {R : List RunS} {h : Rec} (hh : IsHead R h) : Based R h :=
  ⟨h, hh, ⟨rfl, rfl, rfl, rfl⟩, rfl, rfl, rfl, Or.inl rfl⟩

theorem based_view {R : List RunS} {h : Rec} (hh : IsHead R h) : Based R (viewRec h) :=
  ⟨h, hh, ⟨rfl, rfl, rfl, rfl⟩, rfl, rfl, rfl, Or.inr rfl⟩

theorem target_cases (op : CtlOp) : target op = 3 ∨ target op = 2 ∨ target op = 4 ∨ target op = 7 := by
  cases op <;> simp [target, Gen.ctlTargetPause, Gen.ctlTargetResume, Gen.ctlTargetCancel, Gen.ctlTargetDeleteData]

theorem LegalWrite.of_edge {s : Sys} (hi : Inv cfg s) {h w : Rec} (hh : IsHead s.runs h) (hrec : RecOK cfg w) (he : Edge cfg h w) :
    LegalWrite cfg s.runs w := by
  obtain ⟨x, t, hx, hl⟩ := hh
  have hx' : s.runs[w.runId]? = some x := by rw [he.runId]; exact hx
  exact ⟨.of_edge hrec hx' (he.fid.trans ((hi.hist _ _ hx).ids h (by rw [hl]; simp)).2) hl he, legalNew_existing hx'⟩

theorem legal_ctl {s : Sys} (hi : Inv cfg s) {mem : Rec} (hb : Based s.runs mem) (tgt : Int) (reason : Nat)
    (ht : tgt = 3 ∨ tgt = 2 ∨ tgt = 4 ∨ tgt = 7) (ha : allowed mem.runState tgt = true) :
    LegalWrite cfg s.runs { mem with runState := tgt, reason := reason, version := mem.version + 1 } := by
  obtain ⟨h, hh, hd⟩ := hb
  -- the new record is well-formed because the target is one of the four states `ht` lists (in range, not Completed)
  refine LegalWrite.of_edge hi hh ⟨by simp only; womega, by simp only; womega, fun h5 => by simp only at h5; womega, ?_⟩
    ⟨by simp [hd.version], hd.runId, hd.fid, hd.createdAt, Or.inl ⟨hd.status, hd.obj, ?_⟩⟩
  · show mem.descr = mem.status
    rw [hd.descr, hd.status]; exact (hh.recOK hi.hist).descr
  · show allowed h.runState tgt = true ∨ allowed (view h.runState) tgt = true
    rcases hd.runState with e | e
    · exact Or.inl (e ▸ ha)
    · exact Or.inr (e ▸ ha)

theorem legal_advance {s : Sys} (hi : Inv cfg s) {run h : Rec} (hh : IsHead s.runs h) (hd : SameRun run h)
    (hrs : h.runState = 1 ∨ h.runState = 2) (next : Status) (o : Obj) (now : Int) (he : (h.status, next) ∈ cfg.edges) :
    LegalWrite cfg s.runs { updaterRec cfg next run o now with version := run.version + 1 } := by
  have hstate : ∀ b : Bool, (1 : Int) ≤ (if b then Gen.RunStateCompleted else Gen.RunStateRunning) ∧
      (if b then Gen.RunStateCompleted else Gen.RunStateRunning) ≤ 7 ∧
      ((if b then Gen.RunStateCompleted else Gen.RunStateRunning) = 5 → b = true) := by
    intro b; cases b <;> decide
  exact LegalWrite.of_edge hi hh ⟨(hstate _).1, (hstate _).2.1, (hstate _).2.2, rfl⟩
    ⟨by simp [hd.version], hd.runId, hd.fid, hd.createdAt, Or.inr (Or.inl ⟨hrs, he, rfl⟩)⟩

theorem legal_delete {s : Sys} (hi : Inv cfg s) {h : Rec} (hh : IsHead s.runs h) (hrs : h.runState = 7 ∨ h.runState = 6) (o : Obj) :
    LegalWrite cfg s.runs { ({ h with obj := o, runState := Gen.RunStateDataDeleted } : Rec) with version := h.version + 1 } :=
  LegalWrite.of_edge hi hh ⟨by simp [Gen.RunStateDataDeleted], by simp [Gen.RunStateDataDeleted], by simp [Gen.RunStateDataDeleted], (hh.recOK hi.hist).descr⟩ ⟨rfl, rfl, rfl, rfl, Or.inr (Or.inr ⟨hrs, rfl, rfl⟩)⟩

theorem legal_trigger {s : Sys} (fid : Fid) (st : Status) (n : Obj) (now : Int) (hv : Graph.isValid cfg.graph st = true)
    (hof : OthersFin s.runs fid) :
    LegalWrite cfg s.runs { triggerRec fid st n now s.runs.length with version := (triggerRec fid st n now s.runs.length).version + 1 } :=
  ⟨.of_init ⟨by simp [triggerRec, Gen.RunStateInitiated], by simp [triggerRec, Gen.RunStateInitiated],
    by simp [triggerRec, Gen.RunStateInitiated], rfl⟩ rfl ⟨by simp [triggerRec], by simp [triggerRec, Gen.RunStateInitiated], hv⟩, fun _ => hof⟩

/-- Initiated or Running: the run states announced on a status topic (`Routing.topicKind_status`), those a step consumer has
work for -/
def Live (w : Rec) : Prop := w.runState = 1 ∨ w.runState = 2

/-- the announcement `(rid, v)` needs no further handling -/
def Done (rid : RunId) (v : Int) (R : List RunS) : Prop := ∀ w, curR R rid = some w → Live w → w.version ≠ v

/-- which records a tracked consumer must still get to see: a step consumer the live records of its status, the delete
consumer the delete requests -/
def Wants (p : Proc) (w : Rec) : Prop :=
  match p with
  | .step s _ _ => w.status = s ∧ Live w
  | .delete => w.runState = 7
  | _ => False

/-- `Done` for the consumer `p`: only the records `p` wants count -/
def Handled (p : Proc) (rid : RunId) (v : Int) (R : List RunS) : Prop := ∀ w, curR R rid = some w → Wants p w → w.version ≠ v

theorem Handled.of_not_wants {p : Proc} {rid : RunId} {v : Int} {R : List RunS} (h : ∀ w, ¬ Wants p w) : Handled p rid v R :=
  fun w _ hw => (h w hw).elim

theorem Done.of_head {R : List RunS} {rid : RunId} {v : Int} {P : Rec → Prop} (h : HeadSat R rid P)
    (hP : ∀ w, P w → Live w → w.version ≠ v) : Done rid v R := by
  intro w hw hl
  obtain ⟨h0, h1, h2⟩ := h
  rw [hw] at h1
  cases h1
  exact hP _ h2 hl

theorem not_live_of_target_pause_cancel {w : Rec} (h : w.runState = target .pause ∨ w.runState = target .cancel) : ¬ Live w := by
  unfold Live
  rcases h with h | h <;> rw [h] <;> decide

theorem not_live_of_stopped {w : Rec} (h : Gen.stopped w.runState = true) : ¬ Live w := by
  have := (C03.C03_stopped_agrees w.runState).mp h
  unfold Live
  womega

/-- three outcomes: the run is persisted in the target state; nothing was touched; or the store failed and the controller's
in-memory record is in the target state all the same (which is why a later auto-pause is refused by the table) -/
theorem ctlUpdateMem_ht (mem : Rec) (op : CtlOp) (R0 : List RunS) :
    HT cfg env (fun R => R = R0 ∧ (allowed mem.runState (target op) = true → Based R mem))
      (ctlUpdateMem cfg mem op)
      (fun r R => r.1.runId = mem.runId ∧
        (r.2 = none → HeadSat R mem.runId (·.runState = target op)) ∧
        (∀ a, r.2 = some a → (r.1 = mem ∧ R = R0) ∨ r.1.runState = target op)) := by
  unfold ctlUpdateMem
  dsimp only
  split
  · rename_i ha
    refine HT.bind (HT.pre ?_ (HT.tryM (HT.store _))) (fun r => ?_)
    · exact fun s hi ⟨_, hb⟩ => legal_ctl hi (hb ha) (target op) (ctlReason op) (target_cases op) ha
    · cases r with
      | ok u => exact HT.pure (fun R hp => ⟨rfl, fun _ => (hp u rfl).imp fun _ hh => hh.2.1, nofun⟩)
      | error a => exact HT.pure (fun _ _ => ⟨rfl, nofun, fun _ _ => Or.inr rfl⟩)
  · exact HT.pure (fun R hp => ⟨rfl, nofun, fun _ _ => Or.inl ⟨rfl, hp.1⟩⟩)

theorem ctlUpdate_ht (mem : Rec) (op : CtlOp) :
    HT cfg env (fun R => allowed mem.runState (target op) = true → Based R mem) (ctlUpdate cfg mem op) (fun _ _ => True) := by
  refine HT.fix (fun R0 hb0 => ?_)
  unfold ctlUpdate
  refine HT.bind (HT.pre (fun _ _ hp => ⟨hp, hp ▸ hb0⟩) (ctlUpdateMem_ht mem op R0)) (fun r => ?_)
  obtain ⟨mem', e⟩ := r
  cases e with
  | none => exact HT.done
  | some a => exact HT.throwA _

/-- what a user function leaves behind for the run `rid` it was invoked on. A normal return with a value that is not a skip
value happened without any write; with a skip value, if `strict`, the run is no longer persisted Initiated/Running (it was
paused or cancelled through the controller). After an error the controller's record still describes the persisted one, or is
already in a state from which Pause is refused. -/
structure FnPost (strict : Prop) (R0 : List RunS) (rid : RunId) (r : Except Abort FnRes × Rec) (R : List RunS) : Prop where
  runId : r.2.runId = rid
  ok : ∀ res, r.1 = .ok res →
    (Gen.skipValues.contains res.next = true → strict → HeadSat R rid (¬ Live ·)) ∧
    (Gen.skipValues.contains res.next = false → R = R0)
  err : ∀ a, r.1 = .error a → (allowed r.2.runState 3 = true → Based R r.2)

/-- what the step consumer asks of the function it is given (`runFn`, or the inserter's `inserterFn`) -/
def FnSpec (cfg : Cfg) (env : Env) (strict : Prop) (fn : Rec → M (Except Abort FnRes × Rec)) : Prop :=
  ∀ R0 run, HT cfg env (fun R => R = R0 ∧ Based R0 run) (fn run) (FnPost strict R0 run.runId)

theorem allowed_paused_pause : allowed 3 3 = false := by decide
theorem allowed_cancelled_pause : allowed 4 3 = false := by decide

theorem skip_runStateUpdate : Gen.skipValues.contains Gen.SkipTypeRunStateUpdate = true := by decide

/-- the step, callback and timeout functions; a `ret` outcome is never a skip value under `NoSkip` -/
theorem runFn_ht (hn : NoNested env) (kind : String) (run mem : Rec) (fuel : Nat) (first : Bool) (R0 : List RunS) :
    HT cfg env (fun R => R = R0 ∧ Based R0 mem) (runFn cfg kind run mem fuel first) (FnPost (NoSkip env) R0 mem.runId) := by
  refine HT.pull (fun hb0 => ?_)
  have herr : ∀ a, HT cfg env (fun R => R = R0) (Pure.pure (.error a, mem) : M (Except Abort FnRes × Rec)) (FnPost (NoSkip env) R0 mem.runId) :=
    fun a => HT.pure (fun R hp => ⟨rfl, (fun _ h => nomatch h), fun _ _ _ => by rw [hp]; exact hb0⟩)
  cases fuel with
  | zero => unfold runFn; exact herr _
  | succ n =>
    -- Pause / Cancel from inside the function: a skip value on success, else the controller's record after the failure
    have hctl : ∀ op, op = CtlOp.pause ∨ op = CtlOp.cancel → HT cfg env (fun R => R = R0) (do
        let (mem', e) ← ctlUpdateMem cfg mem op
        match e with
        | none => Pure.pure (.ok ⟨Gen.SkipTypeRunStateUpdate, run.obj⟩, mem')
        | some a => Pure.pure (.error a, mem') : M (Except Abort FnRes × Rec)) (FnPost (NoSkip env) R0 mem.runId) := by
      intro op hop
      refine HT.bind (HT.pre (fun s _ hp => ⟨hp, fun _ => by rw [hp]; exact hb0⟩) (ctlUpdateMem_ht mem op R0)) (fun r => ?_)
      obtain ⟨mem', e⟩ := r
      cases e with
      | none =>
        refine HT.pure (fun R hp => ⟨hp.1, fun res hres => ?_, fun _ h => nomatch h⟩)
        cases hres
        refine ⟨fun _ _ => (hp.2.1 rfl).imp fun w hw => ?_, fun hc => ?_⟩
        · exact not_live_of_target_pause_cancel (hop.imp (fun h => by rw [hw, h]) (fun h => by rw [hw, h]))
        · rw [skip_runStateUpdate] at hc; cases hc
      | some a =>
        refine HT.pure (fun R hp => ⟨hp.1, (fun _ h => nomatch h), fun _ _ hal => ?_⟩)
        rcases hp.2.2 a rfl with ⟨h1, h2⟩ | h
        · simp only at h1; subst h1; rw [h2]; exact hb0
        · simp only at h
          rw [h] at hal
          rcases hop with rfl | rfl
          · exact absurd (allowed_paused_pause.symm.trans hal) Bool.false_ne_true
          · exact absurd (allowed_cancelled_pause.symm.trans hal) Bool.false_ne_true
    unfold runFn
    refine HT.bind HT.nextOutcome (fun out => HT.pull fun hout => ?_)
    dsimp only
    split <;> refine HT.bind (HT.emit _) (fun _ => ?_)
    all_goals
      cases out
      case ret next o =>
        refine HT.pure (fun R hp => ⟨rfl, fun res hres => ?_, fun _ h => nomatch h⟩)
        cases hres
        refine ⟨fun hc hs => ?_, fun _ => hp⟩
        rcases hout with hmem | h
        · rw [hs _ hmem next o rfl] at hc; cases hc
        · cases h
      case pause => exact hctl _ (Or.inl rfl)
      case cancel => exact hctl _ (Or.inr rfl)
      case nested x => exact absurd rfl (hn.of_next hout x)
      all_goals exact herr _

theorem runFn_spec (hn : NoNested env) (kind : String) (fuel : Nat) :
    FnSpec cfg env (NoSkip env) (fun run => runFn cfg kind run run fuel true) :=
  fun R0 run => runFn_ht hn kind run run fuel true R0

theorem maybePauseMem_ht (n : Int) (p : Proc) (mem : Rec) (e : Abort) :
    HT cfg env (fun R => allowed mem.runState 3 = true → Based R mem) (maybePauseMem cfg n p mem e)
      (fun r R => r.1 = true → HeadSat R mem.runId (¬ Live ·)) := by
  have hcount : ∀ {P : List RunS → Prop} k v, HT cfg env P (modifySys (·.setCount k v)) (fun _ => P) :=
    fun k v => HT.modifySys (fun _ => rfl) (fun s h => (RelayInv.stable cfg).setCount s k v h)
  refine HT.fix (fun R0 hb0 => ?_)
  unfold maybePauseMem
  split
  · exact HT.pure (fun _ _ h => nomatch h)
  · dsimp only
    refine HT.bind HT.getSys (fun s => HT.bind (hcount _ _) (fun _ => ?_))
    split
    · exact HT.pure (fun _ _ h => nomatch h)
    · -- `target .pause` is 3, the state the precondition speaks of
      refine HT.bind (HT.pre (fun s _ hp => ⟨hp.1, fun ha => by rw [hp.1]; exact hb0 ha⟩) (ctlUpdateMem_ht mem .pause R0)) (fun r => ?_)
      obtain ⟨mem', err⟩ := r
      cases err with
      | some a => exact HT.throwA _
      | none =>
        exact HT.bind (hcount _ _) fun _ => HT.pure fun R hp _ =>
          (hp.2.1 rfl).imp fun w hw => not_live_of_target_pause_cancel (Or.inl hw)

theorem maybePause_ht (n : Int) (p : Proc) (mem : Rec) (e : Abort) :
    HT cfg env (fun R => allowed mem.runState 3 = true → Based R mem) (maybePause cfg n p mem e)
      (fun b R => b = true → HeadSat R mem.runId (¬ Live ·)) := by
  unfold maybePause
  exact HT.bind (maybePauseMem_ht n p mem e) (fun r => HT.pure (fun _ hp => hp))

theorem not_completed_of_edge {w : Rec} (hrec : RecOK cfg w) {next : Status} (he : (w.status, next) ∈ cfg.edges) : w.runState ≠ 5 := by
  intro h5
  have ht := hrec.completedTerminal h5
  unfold Cfg.graph at ht
  exact ((Graph.isTerminal_iff cfg.edges w.status).mp ht).2 ⟨next, he⟩

/-- the updater on an in-memory run that describes the persisted record: a legal advance, or nothing. If the persisted record
is (still) at the status the function ran on, a normal return means the write happened. -/
theorem updater_ht (current next : Status) (run : Rec) (o : Obj) (R0 : List RunS) :
    HT cfg env (fun R => R = R0 ∧ UBased R0 run) (updater cfg current next run o)
      (fun _ R => ∀ h0, curR R0 run.runId = some h0 → h0.status = current → HeadSat R run.runId (·.version = run.version + 1)) := by
  unfold updater
  refine HT.bind HT.getSys (fun s => ?_)
  dsimp only
  refine HT.lookupThen _ (HT.throwA _) fun latest hlid => ?_
  -- from here the precondition is ((R = R0 ∧ UBased R0 run) ∧ s.runs = R ∧ Inv cfg s) ∧ IsHead R latest
  dsimp only
  split
  · rename_i hst
    refine HT.pure (fun R hp h0 hh0 hs0 => ?_)
    rw [← hp.1.1.1, ← hlid, curR_of_isHead hp.2] at hh0
    cases hh0
    simp [Gen.G.updaterStatusChanged, hs0] at hst
  · rename_i hst
    split
    · exact HT.throwA _
    · rename_i hval
      refine HT.post (HT.pre ?_ (HT.updateRecord_head _)) (fun _ _ _ hh _ _ _ => hh.imp fun _ hw => hw.1)
      intro s' hi ⟨⟨⟨hR, hub⟩, _, _⟩, hl⟩
      rw [← hR] at hub
      obtain ⟨h, hh, hd, hrs⟩ := hub
      have heq : h = latest := isHead_unique hh hl (by rw [← hd.runId, hlid])
      subst heq
      have hstat : h.status = current := by simpa [Gen.G.updaterStatusChanged] using hst
      have hedge : (h.status, next) ∈ cfg.edges := by
        rw [hstat]; exact (C02.C02_validate_iff_declared cfg current next).mp (by simpa using hval)
      have hne := not_completed_of_edge (hh.recOK hi.hist) hedge
      have hrs' : h.runState = 1 ∨ h.runState = 2 := hrs.imp_right fun a => a.resolve_right hne
      exact legal_advance hi hh hd hrs' next o s.now hedge

theorem not_stopped_range {rs : Int} (h1 : 1 ≤ rs) (h7 : rs ≤ 7) (hs : Gen.stopped rs = false) : rs = 1 ∨ rs = 2 ∨ rs = 5 := by
  have := mt (C03.C03_stopped_agrees rs).mpr (by rw [hs]; exact Bool.false_ne_true)
  omega

/-- after an answer that is no skip value the record the function ran on is still the persisted one -/
theorem FnPost.ubased {strict : Prop} {R0 : List RunS} {rid : RunId} {res : FnRes} {mem record : Rec} {s : Sys} (hi : Inv cfg s)
    (hp : FnPost strict R0 rid (.ok res, mem) s.runs) (hsk : ¬ Gen.skipValues.contains res.next = true) (hh : IsHead R0 record)
    (hs : Gen.stopped record.runState = false) : s.runs = R0 ∧ UBased R0 (viewRec record) := by
  have hR := (hp.ok res rfl).2 (by simpa using hsk)
  subst hR
  have hrec := hh.recOK hi.hist
  exact ⟨rfl, record, hh, ⟨rfl, rfl, rfl, rfl⟩, not_stopped_range hrec.lo hrec.hi hs⟩

/-- what follows a user function's answer in a step and a callback: skip, or the updater on the record the function ran on -/
theorem afterFn_ht {strict : Prop} {R0 : List RunS} {record : Rec} (hh : IsHead R0 record) (hs : Gen.stopped record.runState = false)
    (current : Status) (hcur : record.status = current) (res : FnRes) (mem : Rec) :
    HT cfg env (fun R => FnPost strict R0 record.runId (.ok res, mem) R)
      (if Gen.skipValues.contains res.next then Pure.pure () else updater cfg current res.next (viewRec record) res.obj)
      (fun _ R => strict → Done record.runId record.version R) := by
  split
  · rename_i hsk
    exact HT.pure (fun R hp hst => Done.of_head ((hp.ok res rfl).1 hsk hst) fun _ hnl hl => absurd hl hnl)
  · rename_i hsk
    refine HT.post (HT.pre (fun _ hi hp => hp.ubased hi hsk hh hs) (updater_ht current res.next (viewRec record) res.obj R0)) ?_
    intro _ s _ hpost _
    refine Done.of_head (hpost record (curR_of_isHead hh) hcur) fun w hw _ hv => ?_
    rw [hv] at hw
    simp only [viewRec] at hw
    womega

theorem stepRun_ht {strict : Prop} (p : Proc) (pa : Int) (record : Rec) (fn : Rec → M (Except Abort FnRes × Rec))
    (hfn : FnSpec cfg env strict fn) :
    HT cfg env (fun R => IsHead R record ∧ Gen.stopped record.runState = false) (stepRun cfg p pa record fn)
      (fun _ R => strict → Done record.runId record.version R) := by
  refine HT.fix (fun R0 hp0 => ?_)
  unfold stepRun
  dsimp only
  refine HT.bind (HT.pre (fun s _ hp => ⟨hp, based_view hp0.1⟩) (hfn R0 (viewRec record))) (fun r => ?_)
  obtain ⟨res, mem⟩ := r
  cases res with
  | error err =>
    dsimp only
    refine HT.assume (fun _ _ hp => hp.runId) (fun hid => ?_)
    refine HT.bind (HT.pre (fun s _ hp => hp.err err rfl) (maybePause_ht pa p mem err)) (fun paused => ?_)
    split
    · rename_i hpz
      exact HT.pure (fun R hp _ => Done.of_head (hid ▸ hp hpz) fun _ hnl hl => absurd hl hnl)
    · exact HT.throwA _
  | ok res => exact afterFn_ht hp0.1 hp0.2 _ rfl res mem

theorem stepGate_ht {strict : Prop} (p : Proc) (pa : Int) (e : Event) (record : Rec) (fn : Rec → M (Except Abort FnRes × Rec))
    (hfn : FnSpec cfg env strict fn) :
    HT cfg env (fun R => IsHead R record ∧ record.runId = e.runId) (stepGate cfg p pa e record fn)
      (fun _ R => strict → Done e.runId e.version R) := by
  have hhead : ∀ R, IsHead R record ∧ record.runId = e.runId → HeadSat R e.runId (· = record) :=
    fun R hp => ⟨record, hp.2 ▸ curR_of_isHead hp.1, rfl⟩
  rw [stepGate_eq]
  split
  · next hold =>
    refine HT.pure (fun R hp _ => Done.of_head (hhead R hp) fun w hw _ => ?_)
    rw [hw]; womega
  · next hnold =>
    split
    · exact HT.throwA _
    · next hnnew =>
      split
      · next hstop =>
        refine HT.pure (fun R hp _ => Done.of_head (hhead R hp) fun w hw hl => ?_)
        exact (not_live_of_stopped (hw ▸ hstop) hl).elim
      · next hstop =>
        -- neither older nor newer: the announced version is the record's
        have hv : record.version = e.version := by womega
        refine HT.assume (fun _ _ hp => hp.2) (fun hid => ?_)
        rw [← hid, ← hv]
        exact HT.pre (fun s _ hp => ⟨hp.1, Bool.eq_false_iff.mpr hstop⟩) (stepRun_ht p pa record fn hfn)

theorem stepHandle_ht {strict : Prop} (p : Proc) (status : Status) (pa : Int) (e : Event) (fn : Rec → M (Except Abort FnRes × Rec))
    (hfn : FnSpec cfg env strict fn) :
    HT cfg env (fun _ => True) (stepHandle cfg p status pa e fn) (fun _ R => strict → Done e.runId e.version R) := by
  unfold stepHandle
  exact HT.lookupThen _ (HT.pure (fun R hp _ w hw _ => by rw [hp.2] at hw; cases hw))
    fun record hid => HT.pre (fun _ _ hp => ⟨hp.2, hid⟩) (stepGate_ht p pa e record fn hfn)

theorem Fr.inserterOne (status : Status) (run : Rec) : Fr (inserterOne status run) := by
  unfold Engine.inserterOne
  refine Fr.bind Fr.nextOutcome (fun out => Fr.bind (Fr.emit _) (fun _ => Fr.bind Fr.getSys (fun s => ?_)))
  unfold Engine.inserterOutcome
  split
  · exact Fr.call (fun _ => rfl)
  · exact Fr.pure _
  · exact Fr.throwA _
  · exact Fr.throwA _
  · exact Fr.throwA _

theorem Fr.inserterFn (status : Status) (run : Rec) : Fr (inserterFn cfg status run) := by
  unfold Engine.inserterFn
  refine Fr.bind (Fr.tryM (Fr.forM _ (fun _ => Fr.inserterOne status run))) (fun r => ?_)
  cases r <;> exact Fr.pure _

theorem inserterFn_val (status : Status) (run : Rec) (env : Env) (st : OpSt) :
    (∃ st', inserterFn cfg status run env st = (.ok (.ok ⟨0, run.obj⟩, run), st')) ∨
    (∃ a st', inserterFn cfg status run env st = (.ok (.error a, run), st')) := by
  unfold Engine.inserterFn
  rw [bind_run]
  unfold Engine.tryM
  rcases ((cfg.timeoutsAt status).forM (fun _ => inserterOne status run)) env st with ⟨r, st'⟩
  cases r with
  | ok _ => exact Or.inl ⟨st', rfl⟩
  | error a => exact Or.inr ⟨a, st', rfl⟩

theorem skip_zero : Gen.skipValues.contains (0 : Int) = true := by decide

theorem inserterFn_spec (status : Status) : FnSpec cfg env False (inserterFn cfg status) := by
  intro R0 run st hi hz hp
  -- the frame rule, and beside it what the function returns (`inserterFn_val`: a fact about the value, outside the logic)
  obtain ⟨h1, h2, h3⟩ := HT.of_frame (cfg := cfg) (env := env) (P := fun R => R = R0 ∧ Based R0 run)
    (Fr.inserterFn status run) (Pres.inserterFn (RelayInv.stable cfg).toStableH status run) st hi hz hp
  refine ⟨h1, h2, fun r hr => ?_⟩
  obtain ⟨hR, hb⟩ := h3 r hr
  rcases inserterFn_val (cfg := cfg) status run env st with ⟨st', h⟩ | ⟨b, st', h⟩ <;> rw [h] at hr <;> cases hr
  · refine ⟨rfl, fun res hres => ?_, fun _ h => nomatch h⟩
    cases hres
    exact ⟨fun _ hf => hf.elim, fun hc => by rw [skip_zero] at hc; cases hc⟩
  · exact ⟨rfl, (fun _ h => nomatch h), fun _ _ _ => by rw [hR]; exact hb⟩

theorem callbackGate_ht {strict : Prop} (status : Status) (wr : Rec) (runner : Rec → M (Except Abort FnRes × Rec))
    (hfn : FnSpec cfg env strict runner) :
    HT cfg env (fun R => IsHead R wr) (callbackGate cfg status wr runner) (fun _ _ => True) := by
  refine HT.fix (fun R0 hp0 => ?_)
  unfold callbackGate
  split
  · exact HT.done
  · rename_i hst
    split
    · exact HT.done
    · rename_i hs
      dsimp only
      refine HT.bind (HT.pre (fun s _ hp => ⟨hp, based_view hp0⟩) (hfn R0 (viewRec wr))) (fun r => ?_)
      obtain ⟨res, mem⟩ := r
      cases res with
      | error a => exact HT.throwA _
      | ok res =>
        exact (afterFn_ht hp0 (by simpa using hs) status (by simpa [Gen.G.callbackSkip] using hst) res mem).forget

theorem callbackOne_ht {strict : Prop} (fid : Fid) (status : Status) (runner : Rec → M (Except Abort FnRes × Rec))
    (hfn : FnSpec cfg env strict runner) :
    HT cfg env (fun _ => True) (callbackOne cfg fid status runner) (fun _ _ => True) := by
  unfold callbackOne
  refine HT.bind (HT.latest _) (fun v => ?_)
  cases v with
  | none => exact HT.throwA _
  | some wr => exact HT.pre (fun s hi hp => isHead_of_latestR hi.hist hp.2.symm) (callbackGate_ht status wr runner hfn)

theorem callbackApi_ht (hn : NoNested env) (fid : Fid) (status : Status) (fuel : Nat) :
    HT cfg env (fun _ => True) (callbackApi cfg fid status fuel) (fun _ _ => True) := by
  cases fuel with
  | zero => unfold callbackApi; exact HT.throwA _
  | succ n =>
    unfold callbackApi
    exact HT.forM _ (fun _ => callbackOne_ht fid status _ (runFn_spec hn "callback" n))

theorem Fr.hookHandle (rs : RunState) (e : Event) : Fr (hookHandle cfg rs e) := by
  unfold Engine.hookHandle
  refine .bind (.lookup _) fun | none => .throwA _ | some record => .ite (.pure _) (.bind .nextOutcome fun out => .bind (.emit _) fun _ => ?_)
  split
  · exact .throwA _
  · exact .bind .loseLease fun _ => .throwA _
  · exact .throwA _
  · exact .pure _

theorem Fr.deleteObj (record : Rec) : Fr (deleteObj cfg record) := by
  unfold Engine.deleteObj Engine.customDeleteFn
  refine .ite (.ite (.throwA _) (.bind .nextOutcome fun out => .bind (.emit _) fun _ => ?_)) (.pure _)
  split
  · exact .throwA _
  · exact .bind .loseLease fun _ => .throwA _
  · exact .throwA _
  · exact .pure _

/-- some write of the run was the delete request -/
def HasRDD (R : List RunS) (rid : RunId) : Prop := ∃ x, R[rid]? = some x ∧ ∃ w ∈ x.hist, w.runState = 7

theorem deleteHandle_ht (e : Event) :
    HT cfg env (fun R => HasRDD R e.runId) (deleteHandle cfg e) (fun _ R => HeadSat R e.runId (·.runState = 6)) := by
  unfold deleteHandle
  refine HT.lookupThen _ (HT.throwA _) fun record hid => ?_
  dsimp only
  refine HT.bind (HT.of_frame (Fr.deleteObj record) (Pres.deleteObj record)) (fun newObj => ?_)
  refine HT.post (HT.pre ?_ (HT.updateRecord_head _)) (fun _ _ _ hh => hid ▸ hh.imp fun _ hw => hw.2.1)
  intro s hi ⟨⟨x, hx, w, hw, h7⟩, hh⟩
  have hrs : record.runState = 7 ∨ record.runState = 6 := by
    obtain ⟨x', t, hx', hl⟩ := hh
    rw [hid, hx] at hx'
    cases hx'
    exact chain_head_after_rdd x.hist record t hl (hi.hist _ _ hx).chain ⟨w, hw, h7⟩
  exact legal_delete hi hh hrs newObj

theorem retryHandle_ht (e : Event) : HT cfg env (fun _ => True) (retryHandle cfg e) (fun _ _ => True) := by
  unfold retryHandle
  refine HT.lookupThen _ (HT.throwA _) fun record _ => ?_
  dsimp only
  split
  · exact HT.done
  · refine HT.bind HT.getSys (fun s => ?_)
    split
    · exact HT.done
    · exact HT.bind (HT.pre (fun _ _ hp _ => based_head hp.1.2) (ctlUpdate_ht record .resume)) (fun _ => HT.done)

theorem handle_delete_ht (e : Event) :
    HT cfg env (fun R => HasRDD R e.runId) (handle cfg .delete e) (fun _ R => Handled .delete e.runId e.version R) := by
  refine HT.post (deleteHandle_ht e) (fun _ _ _ hh w hw h7 => ?_)
  obtain ⟨h, h1, h6⟩ := hh
  rw [hw] at h1
  cases h1
  exact absurd (h6 ▸ h7 : (6 : Int) = 7) (by decide)

theorem handle_ht (hn : NoNested env) (p : Proc) (e : Event) :
    HT cfg env (fun R => p = .delete → HasRDD R e.runId) (handle cfg p e)
      (fun _ R => NoSkip env → Handled p e.runId e.version R) := by
  cases p with
  | step s k n =>
    exact HT.post (stepHandle_ht _ s _ e _ (runFn_spec hn "step" fuelDefault)).any
      (fun _ _ _ hd hs w hw hwant => hd hs w hw hwant.2)
  | inserter s => exact HT.post (stepHandle_ht _ s _ e _ (inserterFn_spec s)).any fun _ _ _ _ _ => .of_not_wants fun _ h => h
  | hook rs =>
    exact HT.post (HT.of_frame (Fr.hookHandle (cfg := cfg) rs e) (Pres.hookHandle (cfg := cfg) rs e)) fun _ _ _ _ _ => .of_not_wants fun _ h => h
  | delete => exact HT.post (HT.pre (fun _ _ hp => hp rfl) (handle_delete_ht e)) (fun _ _ _ hh _ => hh)
  | retry => exact HT.post (retryHandle_ht e).any fun _ _ _ _ _ => .of_not_wants fun _ h => h
  | outbox => exact HT.pure fun _ _ _ => .of_not_wants fun _ h => h
  | poller s => exact HT.pure fun _ _ _ => .of_not_wants fun _ h => h

/-- a delivery ends with the acknowledgement: of an event the filter excluded, or after the handler returned normally -/
theorem HT.deliver {P Q : List RunS → Prop} (p : Proc) (i : Nat) (e : Event) (h : HT cfg env P (handle cfg p e) (fun _ => Q)) :
    HT cfg env P (Engine.deliver cfg p i e) (fun _ R => filteredOut p i e = true ∨ Q R) := by
  unfold Engine.deliver
  split
  · next hf => exact HT.post (HT.ack p i) fun _ _ _ _ => Or.inl hf
  · exact HT.bind h fun _ => HT.post (HT.ack p i) fun _ _ _ hq => Or.inr hq

theorem deliver_ht (hn : NoNested env) (p : Proc) (i : Nat) (e : Event) :
    HT cfg env (fun R => p = .delete → HasRDD R e.runId) (deliver cfg p i e) (fun _ _ => True) :=
  (HT.deliver p i e (handle_ht hn p e).forget).forget

/-- **A delivery to a step consumer that ends with the acknowledgement** (a normal return of `deliver`): the event was for
another shard, or the announced version needs no further handling. -/
theorem deliver_step_done (hn : NoNested env) (hs : NoSkip env) (s : Status) (shard total : Int) (i : Nat) (e : Event) :
    HT cfg env (fun _ => True) (deliver cfg (.step s shard total) i e)
      (fun _ R => filteredOut (.step s shard total) i e = true ∨ Done e.runId e.version R) :=
  HT.deliver _ i e (HT.post (stepHandle_ht _ s _ e _ (runFn_spec hn "step" fuelDefault)) fun _ _ _ hd => hd hs)

/-- … and one to the delete consumer, which filters nothing: the run is persisted DataDeleted -/
theorem deliver_delete_done (i : Nat) (e : Event) :
    HT cfg env (fun R => HasRDD R e.runId) (deliver cfg .delete i e) (fun _ R => HeadSat R e.runId (·.runState = 6)) :=
  HT.post (HT.deliver .delete i e (deleteHandle_ht e)) fun _ _ _ h => h.resolve_left nofun

theorem event_written {s : Sys} (hi : Inv cfg s) {e : Event} (he : e ∈ s.log) :
    ∃ x w, s.runs[e.runId]? = some x ∧ w ∈ x.hist ∧ core e = Routing.route w := by
  obtain ⟨w, ⟨run, hrun, hw⟩, hc⟩ := hi.relay.log_written e he
  obtain ⟨i, hx⟩ := List.getElem?_of_mem hrun
  have hid : e.runId = i := (congrArg Event.runId hc).trans ((hi.hist _ _ hx).ids w hw).1
  exact ⟨run, w, hid ▸ hx, hw, hc⟩

theorem hasRDD_of_delete_event {s : Sys} (hi : Inv cfg s) {e : Event} (he : e ∈ s.log) (hk : e.topicKind = 1) :
    HasRDD s.runs e.runId :=
  let ⟨x, w, hx, hw, hc⟩ := event_written hi he
  ⟨x, hx, w, hw, Routing.topicKind_delete.mp ((congrArg Event.topicKind hc).symm.trans hk)⟩

theorem subscribed_delete {e : Event} (h : subscribed .delete e = true) : e.topicKind = 1 := by
  simpa [subscribed] using h

theorem deliver_received_ht (hn : NoNested env) (p : Proc) (i : Nat) (e : Event) (s : Sys) (he : s.log[i]? = some e)
    (hsub : subscribed p e = true) :
    HT cfg env (fun R => s.runs = R ∧ Inv cfg s) (deliver cfg p i e) (fun _ _ => True) := by
  refine HT.pre (fun _ _ hp hd => ?_) (deliver_ht hn p i e)
  subst hd
  exact hp.1 ▸ hasRDD_of_delete_event hp.2 (List.mem_of_getElem? he) (subscribed_delete hsub)

theorem processTimeout_ht (hn : NoNested env) (p : Proc) (status : Status) (shared : Rec) (t : Timer) :
    HT cfg env (fun R => IsHead R shared ∧ Gen.stopped shared.runState = false)
      (processTimeout cfg p status shared t) (fun _ _ => True) := by
  refine HT.fix (fun R0 hp0 => ?_)
  unfold processTimeout
  dsimp only
  refine HT.bind (HT.pre (fun s _ hp => ⟨hp, based_view hp0.1⟩) (runFn_ht hn "timeout" _ _ fuelDefault true R0)) (fun r => ?_)
  obtain ⟨res, mem⟩ := r
  cases res with
  | error err =>
    dsimp only
    exact HT.bind (HT.pre (fun s _ hp => hp.err err rfl) (maybePauseMem_ht _ p mem err)) (fun r => HT.done)
  | ok res =>
    dsimp only
    split
    · exact HT.done
    · rename_i hskip
      refine HT.bind (HT.pre (fun _ hi hp => hp.ubased hi hskip hp0.1 hp0.2) (updater_ht _ _ _ _ R0)).forget (fun _ => ?_)
      exact HT.bind (HT.call_frame (fun _ => rfl) (fun s h => (RelayInv.stable cfg).timerComplete s _ h)) fun _ => HT.done

theorem pollGate_ht (hn : NoNested env) (h1 : OneTimeout cfg) (p : Proc) (status : Status) (t : Timer) (r : Rec) :
    HT cfg env (fun R => IsHead R r) (pollGate cfg p status t r) (fun _ _ => True) := by
  unfold pollGate
  split
  · exact (HT.call_frame (fun _ => rfl) (fun s h => (RelayInv.stable cfg).timerCancel s _ h)).forget
  · split
    · exact HT.done
    · rename_i hs
      have hs' : Gen.stopped r.runState = false := by simpa [Gen.G.pollSkipStopped] using hs
      -- with a second timeout on the status the record read before the first function ran would no longer be the persisted one
      have hlen := h1 status
      generalize cfg.timeoutsAt status = l at hlen ⊢
      rcases l with _ | ⟨b, _ | ⟨c, l'⟩⟩
      · exact HT.done
      · simp only [List.foldlM]
        exact HT.bind (HT.bind (HT.pre (fun s _ hp => ⟨hp, hs'⟩) (processTimeout_ht hn p status r t)) fun _ => HT.done) fun _ => HT.done
      · exact absurd hlen (by simp)

theorem pollTimer_ht (hn : NoNested env) (h1 : OneTimeout cfg) (p : Proc) (status : Status) (t : Timer) :
    HT cfg env (fun _ => True) (pollTimer cfg p status t) (fun _ _ => True) := by
  unfold pollTimer
  exact HT.lookupThen _ (HT.throwA _) fun r _ => HT.pre (fun _ _ hp => hp.2) (pollGate_ht hn h1 p status t r)

theorem pollOp_ht (hn : NoNested env) (h1 : OneTimeout cfg) (p : Proc) (status : Status) (q : Int) :
    HT cfg env (fun _ => True) (pollOp cfg p status q) (fun _ _ => True) := by
  unfold pollOp
  refine HT.bind (HT.call_frame (fun _ => rfl) (fun _ h => h)) (fun due => ?_)
  exact HT.forM _ (fun t => pollTimer_ht hn h1 p status t)

theorem Fr.relayEntry (o : OutE) : Fr (relayEntry o) := by
  unfold Engine.relayEntry
  refine Fr.bind (Fr.call (fun _ => rfl)) (fun _ => ?_)
  refine Fr.bind (Fr.tryM (Fr.call (fun _ => rfl))) (fun r => ?_)
  refine Fr.bind (Fr.emit _) (fun _ => ?_)
  cases r with
  | error a => exact Fr.throwA _
  | ok _ => exact Fr.call (fun _ => rfl)

theorem Fr.relayOp : Fr (relayOp cfg) := by
  unfold Engine.relayOp
  exact Fr.bind (Fr.call (fun _ => rfl)) (fun batch => Fr.forM _ (fun o => Fr.relayEntry o))

/-- the body of one operation keeps the invariant: each piece of work is a triple from the state it starts in -/
theorem procBody_inv (hn : NoNested env) (h1 : OneTimeout cfg) (p : Proc) (ps : PState) (st : OpSt) (hi : Inv cfg st.sys)
    (hz : st.stale = 0) : Inv cfg (procBody cfg p ps env st).2.sys := by
  obtain ⟨w, st1, hw, hs, hst, he⟩ := procBody_work cfg p ps env st
  rw [he]
  have run : HT cfg env (fun R => st.sys.runs = R ∧ Inv cfg st.sys) w (fun _ _ => True) → Inv cfg (w env st1).2.sys :=
    fun h => (h st1 (hs ▸ hi) (hst.trans hz) ⟨by rw [hs], hi⟩).1
  cases hw with
  | fail => exact run (HT.throwA _)
  | park => exact run HT.done
  | relay => exact run (HT.bind (HT.of_frame Fr.relayOp (Pres.relayOp cfg)) fun _ => HT.done)
  | poll => exact run (HT.bind (pollOp_ht hn h1 _ _ _).any fun _ => HT.bind HT.getSys fun _ => HT.done)
  | deliver i e hle hsub => exact run (HT.bind (deliver_received_ht hn p i e st.sys hle hsub) fun _ => HT.done)

/-- … and so does the operation: it is its body, then parking the process (`procOp_sys`) -/
theorem procOp_inv (hn : NoNested env) (h1 : OneTimeout cfg) (p : Proc) (st : OpSt) (hi : Inv cfg st.sys) (hz : st.stale = 0) :
    Inv cfg (procOp cfg p env st).2.sys := by
  have hb := procBody_inv hn h1 p (st.sys.pstate p) st hi hz
  rw [procOp_sys]
  exact hb.frame rfl ((RelayInv.stable cfg).setPState _ _ _ hb.relay)

/-- Trigger's test on the latest run of the foreign ID: when it lets the call through, every run of the foreign ID is finished -/
theorem othersFin_of_trigger_check {s : Sys} (hi : Inv cfg s) (fid : Fid) (last : Option Rec) (hl : last = latestR s.runs fid)
    (hc : ¬ Gen.G.triggerInProgress ((last.map (·.runState)).getD Gen.RunStateUnknown) = true) : OthersFin s.runs fid := by
  refine othersFin_of_last hi.one fid (fun y hfind => ?_)
  obtain ⟨i, hx⟩ := List.getElem?_of_mem (List.mem_reverse.mp (List.mem_of_find?_eq_some hfind))
  have hrun := hi.hist _ _ hx
  cases hh : y.hist with
  | nil => exact (hh ▸ hrun.chain : Chain cfg []).elim
  | cons h t =>
    have hrec := hrun.recs h (by rw [hh]; simp)
    rw [hl, latestR, hfind, Option.bind_some, hh] at hc
    simp only [List.head?_cons, Option.map_some, Option.getD_some, Gen.G.triggerInProgress, Bool.and_eq_true, Bool.not_eq_true',
      not_and, Bool.not_eq_false] at hc
    exact ⟨h, t, hh, (C03.C03_finished_agrees _).mp (hc ((C03.C03_valid_agrees _).mpr ⟨hrec.lo, hrec.hi⟩))⟩

theorem triggerApi_ht (fid : Fid) (start : Status) (n : Obj) :
    HT cfg env (fun _ => True) (triggerApi cfg fid start n) (fun _ _ => True) := by
  unfold triggerApi
  cases hts : triggerStart cfg start with
  | none => exact HT.throwA _
  | some st =>
    dsimp only
    refine HT.bind (HT.latest _) (fun last => ?_)
    split
    · exact HT.throwA _
    · rename_i hc
      refine HT.bind HT.getSys (fun s => ?_)
      refine HT.bind (HT.pre ?_ (HT.updateRecord _)) (fun _ => HT.done)
      intro s' hi' hp
      have hof : OthersFin s'.runs fid := othersFin_of_trigger_check hi' fid last hp.1.2 hc
      rw [← hp.2.1] at hof ⊢
      exact legal_trigger fid st n s.now (C02.C02_trigger_start_declared cfg start st hts).1 hof

theorem ctlFreshApi_ht (rid : RunId) (op : CtlOp) :
    HT cfg env (fun _ => True) (ctlFreshApi cfg rid op) (fun _ _ => True) := by
  unfold ctlFreshApi
  refine HT.bind HT.getSys (fun s => ?_)
  split
  · exact HT.throwA _
  · exact HT.lookupThen _ (HT.throwA _) fun r _ =>
      HT.bind (HT.pre (fun _ _ hp _ => based_head hp.2) (ctlUpdate_ht r op)) (fun _ => HT.done)

theorem Fr.handleApi (rid : RunId) : Fr (handleApi rid) := by
  unfold Engine.handleApi
  exact .bind .getSys fun _ => .ite (.throwA _) (.bind (.lookup _) fun | none => .throwA _ | some r => .bind (.modifySys fun _ => rfl) fun _ => .pure _)

end WorkflowModel.Engine
