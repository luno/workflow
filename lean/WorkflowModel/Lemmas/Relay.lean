import WorkflowModel.Lemmas.Stable
/-! # The relay invariant (C05), for every reachable state

`RelayInv`: (1) every outbox entry describes a write, (2) every published event describes a write, (3) every write
is pending in the outbox or published, (4, 5) the ordinals of the outbox entries are below the counter and pairwise distinct
(`relayDelete` removes by ordinal). It is preserved by every handler primitive; of the relay's two, `relaySend` needs the event
to describe a write and `relayDelete` needs the entry's event to be in the stream log — exactly what `purgeOutbox` establishes by
sending before deleting. -/
namespace WorkflowModel.Engine
open WorkflowModel

/-- an event with the streamer's time stamp removed -/
def core (e : Event) : Event := { e with createdAt := 0 }

/-- `w` is one of the record writes made so far -/
def Written (s : Sys) (w : Rec) : Prop := ∃ run ∈ s.runs, w ∈ run.hist

/-- the event describes one of the writes made so far (`RelayInv` and `RelayInv.relaySend` write this out) -/
abbrev Announces (s : Sys) (ev : Event) : Prop := ∃ w, Written s w ∧ ev = Routing.route w

structure RelayInv (s : Sys) : Prop where
  outbox_written : ∀ o ∈ s.outbox, ∃ w, Written s w ∧ o.ev = Routing.route w
  log_written : ∀ e ∈ s.log, ∃ w, Written s w ∧ core e = Routing.route w
  written_pending_or_published : ∀ w, Written s w →
    (∃ o ∈ s.outbox, o.ev = Routing.route w) ∨ (∃ e ∈ s.log, core e = Routing.route w)
  ord_fresh : ∀ o ∈ s.outbox, o.ord < s.outN
  ord_unique : ∀ o1 ∈ s.outbox, ∀ o2 ∈ s.outbox, o1.ord = o2.ord → o1 = o2

theorem route_createdAt (r : Rec) : (Routing.route r).createdAt = 0 := rfl

theorem core_route (r : Rec) : core (Routing.route r) = Routing.route r := rfl

theorem written_write (s : Sys) (cfg : Cfg) (r w : Rec) :
    Written (s.write cfg r) w ↔ Written s w ∨ w = s.stamped cfg r := mem_writeRuns s.runs _ w

theorem RelayInv.write {s : Sys} (cfg : Cfg) (r : Rec) (h : RelayInv s) : RelayInv (s.write cfg r) := by
  have hw := written_write s cfg r
  rw [write_eq] at hw ⊢
  generalize s.stamped cfg r = r' at hw ⊢
  constructor
  · intro o ho
    rcases List.mem_append.mp ho with ho | ho
    · obtain ⟨w, hw1, hw2⟩ := h.outbox_written o ho
      exact ⟨w, (hw w).mpr (Or.inl hw1), hw2⟩
    · rw [List.mem_singleton.mp ho]
      exact ⟨r', (hw r').mpr (Or.inr rfl), rfl⟩
  · intro e he
    obtain ⟨w, hw1, hw2⟩ := h.log_written e he
    exact ⟨w, (hw w).mpr (Or.inl hw1), hw2⟩
  · intro w hww
    rcases (hw w).mp hww with hww | rfl
    · rcases h.written_pending_or_published w hww with ⟨o, ho, he⟩ | hp
      · exact Or.inl ⟨o, List.mem_append_left _ ho, he⟩
      · exact Or.inr hp
    · exact Or.inl ⟨_, List.mem_append_right _ (List.mem_singleton_self _), rfl⟩
  · intro o ho
    show o.ord < s.outN + 1
    rcases List.mem_append.mp ho with ho | ho
    · exact Nat.lt_succ_of_lt (h.ord_fresh o ho)
    · rw [List.mem_singleton.mp ho]; exact Nat.lt_succ_self _
  · intro o1 h1 o2 h2 heq
    rcases List.mem_append.mp h1 with h1 | h1 <;> rcases List.mem_append.mp h2 with h2 | h2
    · exact h.ord_unique o1 h1 o2 h2 heq
    · rw [List.mem_singleton.mp h2] at heq; exact absurd heq (Nat.ne_of_lt (h.ord_fresh o1 h1))
    · rw [List.mem_singleton.mp h1] at heq; exact absurd heq.symm (Nat.ne_of_lt (h.ord_fresh o2 h2))
    · rw [List.mem_singleton.mp h1, List.mem_singleton.mp h2]

theorem RelayInv.relaySend {s : Sys} (e : Event) (h : RelayInv s) (he : ∃ w, Written s w ∧ core e = Routing.route w) :
    RelayInv (s.relaySend e) := by
  refine ⟨h.outbox_written, fun e' he' => ?_, fun w hww => ?_, h.ord_fresh, h.ord_unique⟩
  · rcases List.mem_append.mp he' with he' | he'
    · exact h.log_written e' he'
    · rw [List.mem_singleton.mp he']; exact he
  · exact (h.written_pending_or_published w hww).imp_right fun ⟨e', he', hc⟩ => ⟨e', List.mem_append_left _ he', hc⟩

theorem RelayInv.relayDelete {s : Sys} (ord : Nat) (h : RelayInv s)
    (hsent : ∀ o ∈ s.outbox, o.ord = ord → ∃ e ∈ s.log, core e = o.ev) : RelayInv (s.relayDelete ord) := by
  -- what is left in the outbox was there before (`List.mem_filter`)
  refine ⟨fun o ho => h.outbox_written o (List.mem_filter.mp ho).1, h.log_written, fun w hww => ?_,
    fun o ho => h.ord_fresh o (List.mem_filter.mp ho).1,
    fun o1 h1 o2 h2 => h.ord_unique o1 (List.mem_filter.mp h1).1 o2 (List.mem_filter.mp h2).1⟩
  rcases h.written_pending_or_published w hww with ⟨o, ho, he⟩ | hp
  · by_cases hord : o.ord = ord
    · obtain ⟨e, hel, hc⟩ := hsent o ho hord
      exact Or.inr ⟨e, hel, by rw [hc, he]⟩
    · exact Or.inl ⟨o, List.mem_filter.mpr ⟨ho, bne_iff_ne.mpr hord⟩, he⟩
  · exact Or.inr hp

theorem RelayInv.frame {s s' : Sys} (h : RelayInv s) (h1 : s'.runs = s.runs) (h2 : s'.outbox = s.outbox)
    (h3 : s'.log = s.log) (h4 : s'.outN = s.outN) : RelayInv s' := by
  cases s; cases s'; cases h1; cases h2; cases h3; cases h4
  exact ⟨h.1, h.2, h.3, h.4, h.5⟩

theorem RelayInv.stable (cfg : Cfg) : Stable RelayInv cfg where
  write := fun _ r h => h.write cfg r
  setCursor := fun _ _ _ h => h.frame rfl rfl rfl rfl
  timerCreate := fun _ _ _ _ _ h => h.frame rfl rfl rfl rfl
  timerComplete := fun _ _ h => h.frame rfl rfl rfl rfl
  timerCancel := fun _ _ h => h.frame rfl rfl rfl rfl
  setCount := fun _ _ _ h => h.frame rfl rfl rfl rfl
  setPState := fun _ _ _ h => h.frame rfl rfl rfl rfl
  setHandles := fun _ _ h => h.frame rfl rfl rfl rfl
  tick := fun _ _ h => h.frame rfl rfl rfl rfl

theorem RelayInv.init : RelayInv {} := by
  constructor <;> simp [Written]

/-- what relaying the batch needs to know about it: each entry is the only one with its ordinal, and describes a write.
Both survive anything that keeps the histories and only removes outbox entries, so they need not be re-established as the
batch is worked off. -/
def BatchOK (batch : List OutE) (s : Sys) : Prop :=
  ∀ o ∈ batch, (∀ o' ∈ s.outbox, o'.ord = o.ord → o' = o) ∧ Announces s o.ev

theorem BatchOK.mono {batch : List OutE} {s s' : Sys} (h : BatchOK batch s) (h1 : s'.runs = s.runs)
    (h2 : ∀ o, o ∈ s'.outbox → o ∈ s.outbox) : BatchOK batch s' := by
  intro o ho
  obtain ⟨a, w, b, c⟩ := h o ho
  refine ⟨fun o' ho' => a o' (h2 o' ho'), w, ?_, c⟩
  unfold Written at *; rw [h1]; exact b

theorem BatchOK.tail {o : OutE} {rest : List OutE} {s : Sys} (h : BatchOK (o :: rest) s) : BatchOK rest s :=
  fun o' ho' => h o' (List.mem_cons_of_mem _ ho')

/-- the three possible effects of relaying one entry, whatever the fault plan: nothing; the event was published;
the event was published and then the entry removed -/
theorem relayEntry_shape (o : OutE) (env : Env) (st : OpSt) :
    let e : Event := { o.ev with createdAt := st.sys.now }
    ((relayEntry o) env st).2.sys = st.sys ∨
    ((relayEntry o) env st).2.sys = st.sys.relaySend e ∨
    ((relayEntry o) env st).2.sys = (st.sys.relaySend e).relayDelete o.ord := by
  intro e
  unfold relayEntry
  rw [bind_run]
  -- new sender: no effect on `Sys`
  rcases call_cases _ _ env st with ⟨_, h1⟩ | ⟨_, a, st1, h1, hs1, _⟩ <;> rw [h1]
  · dsimp only
    rw [bind_run, tryM_run]
    -- send: failed before or after its effect, or done
    rcases call_cases "send" _ env _ with ⟨_, h2⟩ | ⟨_, a, st2, h2, hs2, _⟩ <;> rw [h2]
    · -- delete, only after a send that returned normally
      exact Or.inr ((call_sys _ _ env _).imp And.left id)
    · exact hs2.elim Or.inl fun a => Or.inr (Or.inl a)
  · exact Or.inl (hs1.elim id id)

/-- **The relay cycle preserves `J`** - under every fault plan - as soon as publishing an entry that describes a write does,
and publishing followed by removing the entry (the only one with its ordinal) does. -/
theorem Pres.relayOp_of {J : Sys → Prop} (cfg : Cfg) (hJ : ∀ s, J s → RelayInv s)
    (hsend : ∀ s (o : OutE) t, J s → Announces s o.ev → J (s.relaySend { o.ev with createdAt := t }))
    (hdel : ∀ s (o : OutE) t, J s → (∀ o' ∈ s.outbox, o'.ord = o.ord → o' = o) → Announces s o.ev →
      J ((s.relaySend { o.ev with createdAt := t }).relayDelete o.ord)) : Pres J (relayOp cfg) := by
  have batch : ∀ (batch : List OutE) (env : Env) (st : OpSt), J st.sys → BatchOK batch st.sys →
      J ((batch.forM relayEntry) env st).2.sys := by
    intro batch env
    induction batch with
    | nil => exact fun _ hj _ => hj
    | cons o rest ih =>
      intro st hj hb
      obtain ⟨huniq, hw⟩ := hb o (List.mem_cons_self ..)
      have step : J (relayEntry o env st).2.sys ∧ BatchOK rest (relayEntry o env st).2.sys := by
        rcases relayEntry_shape o env st with h | h | h <;> rw [h]
        · exact ⟨hj, hb.tail⟩
        · exact ⟨hsend _ _ _ hj hw, hb.tail.mono rfl (fun _ h => h)⟩
        · exact ⟨hdel _ _ _ hj huniq hw, hb.tail.mono rfl (fun _ h => (List.mem_filter.mp h).1)⟩
      show J ((List.forM (o :: rest) relayEntry) env st).2.sys
      unfold List.forM
      rw [bind_run]
      generalize relayEntry o env st = x at step ⊢
      rcases x with ⟨_ | _, st'⟩
      · exact step.1
      · exact ih st' step.1 step.2
  intro env st hj
  unfold Engine.relayOp
  rw [bind_run]
  rcases h : Engine.call "listoutbox" _ env st with ⟨r, st'⟩
  cases r with
  | error _ => exact (call_err h).1.elim (· ▸ hj) (· ▸ hj)
  | ok b =>
    obtain ⟨_, hb, rfl⟩ := call_ok h
    cases hb
    refine batch _ env _ hj fun o ho => ?_
    have hmem : o ∈ st.sys.outbox := List.mem_of_mem_take ho
    exact ⟨fun o' ho' hord => (hJ _ hj).ord_unique o' ho' o hmem hord, (hJ _ hj).outbox_written o hmem⟩

theorem RelayInv.publish {s : Sys} (h : RelayInv s) (o : OutE) (t : Int) (hw : Announces s o.ev) :
    RelayInv (s.relaySend { o.ev with createdAt := t }) :=
  let ⟨w, hw, hev⟩ := hw
  h.relaySend _ ⟨w, hw, by rw [hev]; rfl⟩

/-- publishing, then removing: the entry's event is in the log by then -/
theorem RelayInv.publishDelete {s : Sys} (h : RelayInv s) (o : OutE) (t : Int) (huniq : ∀ o' ∈ s.outbox, o'.ord = o.ord → o' = o)
    (hw : Announces s o.ev) : RelayInv ((s.relaySend { o.ev with createdAt := t }).relayDelete o.ord) := by
  refine (h.publish o t hw).relayDelete o.ord fun o' ho' hord => ?_
  obtain ⟨w, _, hev⟩ := hw
  rw [huniq o' ho' hord]
  exact ⟨_, List.mem_append_right _ (List.mem_singleton_self _), by rw [hev]; rfl⟩

/-- the relay cycle keeps the relay invariant under every fault plan (C05) -/
theorem Pres.relayOp (cfg : Cfg) : Pres RelayInv (relayOp cfg) :=
  Pres.relayOp_of cfg (fun _ h => h) (fun _ o t h => h.publish o t) (fun _ o t h => h.publishDelete o t)

end WorkflowModel.Engine
