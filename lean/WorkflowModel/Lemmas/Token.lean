import WorkflowModel.Lemmas.HistOps
/-! # No run is stranded at a step: the announcement of every live run is still ahead of its consumer (C01)

`TokInv s`: for every run whose persisted record `w` is Initiated or Running, the announcement of `w` is pending: it sits in
the outbox, or it has been published at an index that every step-consumer process of `w`'s status which does not filter it
out (its shard) has not passed yet; the same for a delete request and the delete consumer. The invariant is preserved by every
write and by everything that neither moves a tracked consumer's cursor nor parks one in the lag wait (where it must hold the
first event of its topic, `LagOk`); a tracked consumer's acknowledgement preserves it because
a delivery ends with the acknowledgement only when the announced version needs no further handling by that consumer
(`Handles`, from the triples of Lemmas/HistOps.lean); the relay preserves it because it deletes an entry only after sending
it, to the end of the log, where no cursor has been yet. -/
namespace WorkflowModel.Engine
open WorkflowModel RS

def PendingAt (s : Sys) (w : Rec) : Prop :=
  (∃ o ∈ s.outbox, o.ev = Routing.route w) ∨
  (∃ i e, s.log[i]? = some e ∧ core e = Routing.route w ∧
    ∀ k n, filteredOut (.step w.status k n) i e = false → s.cursor (.step w.status k n) ≤ i)

/-- what the step consumer's `Recv` established: nothing of its topic lies between its cursor and the event it is handling -/
def NoGap (s : Sys) (p : Proc) (i : Nat) : Prop :=
  ∀ j e, s.cursor p ≤ j → j < i → s.log[j]? = some e → subscribed p e = false

/-- a consumer parked in the lag wait holds event `i` of its own topic, the first one at or after its cursor -/
def LagOk (s : Sys) (p : Proc) (i : Nat) : Prop := (∃ e, s.log[i]? = some e ∧ subscribed p e = true) ∧ NoGap s p i

/-- the delete request `w` (a RequestedDataDeleted record) is still ahead of the delete consumer -/
def PendingDel (s : Sys) (w : Rec) : Prop :=
  (∃ o ∈ s.outbox, o.ev = Routing.route w) ∨
  (∃ i e, s.log[i]? = some e ∧ core e = Routing.route w ∧ s.cursor .delete ≤ i)

structure TokInv (s : Sys) : Prop where
  pending : ∀ rid w, s.cur rid = some w → Live w → PendingAt s w
  cursorLe : ∀ st k n, s.cursor (.step st k n) ≤ s.log.length
  lag : ∀ st k n i u, s.pstate (.step st k n) = .lagWait i u → LagOk s (.step st k n) i
  pendingDel : ∀ rid w, s.cur rid = some w → w.runState = 7 → PendingDel s w
  cursorLeDel : s.cursor .delete ≤ s.log.length
  noLagDel : ∀ i u, s.pstate .delete ≠ .lagWait i u

/-! ## the invariant, stated once for both kinds of tracked consumer

`Wants p w` (Lemmas/HistOps.lean) says which consumers must still get to see the persisted record `w`: the step consumers of
its status while it is live, the delete consumer while it is a delete request. `Pend C s w` is `PendingAt`/`PendingDel` with
the set of consumers as a parameter; `Tok` is `TokInv` in these terms. Everything below is proved about `Tok`; the two
agree (`tok_iff`, `tokInv_eq`). -/

/-- the TRACKED consumers, whose cursors the invariant constrains: the step consumers and (despite the name) the delete consumer -/
def IsStep : Proc → Bool
  | .step _ _ _ => true
  | .delete => true
  | _ => false

def Pend (C : Proc → Prop) (s : Sys) (w : Rec) : Prop :=
  (∃ o ∈ s.outbox, o.ev = Routing.route w) ∨
  (∃ i e, s.log[i]? = some e ∧ core e = Routing.route w ∧ ∀ p, C p → filteredOut p i e = false → s.cursor p ≤ i)

structure Tok (s : Sys) : Prop where
  pend : ∀ rid w, s.cur rid = some w → (∃ p, Wants p w) → Pend (Wants · w) s w
  cursorLe : ∀ p, IsStep p = true → s.cursor p ≤ s.log.length
  lag : ∀ p i u, IsStep p = true → s.pstate p = .lagWait i u → p ≠ .delete ∧ LagOk s p i

theorem Wants.isStep {p : Proc} {w : Rec} (h : Wants p w) : IsStep p = true := by
  cases p <;> first | rfl | exact h.elim

theorem wants_live {w : Rec} (hl : Live w) (p : Proc) : Wants p w ↔ ∃ k n, p = .step w.status k n := by
  cases p
  case step s k n => exact ⟨fun h => ⟨k, n, by rw [h.1]⟩, fun ⟨_, _, h⟩ => ⟨by cases h; rfl, hl⟩⟩
  case delete => exact ⟨fun h => by unfold Live at hl; have : w.runState = 7 := h; womega, fun ⟨_, _, h⟩ => by cases h⟩
  all_goals exact ⟨fun h => h.elim, fun ⟨_, _, h⟩ => by cases h⟩

theorem wants_rdd {w : Rec} (h7 : w.runState = 7) (p : Proc) : Wants p w ↔ p = .delete := by
  cases p
  case step s k n => exact ⟨fun h => by have := h.2; unfold Live at this; womega, fun h => by cases h⟩
  case delete => exact ⟨fun _ => rfl, fun _ => h7⟩
  all_goals exact ⟨fun h => h.elim, fun h => by cases h⟩

theorem pendingAt_iff {s : Sys} {w : Rec} (hl : Live w) : PendingAt s w ↔ Pend (Wants · w) s w := by
  refine or_congr Iff.rfl (exists_congr fun i => exists_congr fun e => and_congr_right fun _ => and_congr_right fun _ => ?_)
  constructor
  · intro hk p hp hf
    obtain ⟨k, n, rfl⟩ := (wants_live hl p).mp hp
    exact hk k n hf
  · exact fun hk k n hf => hk _ ((wants_live hl _).mpr ⟨k, n, rfl⟩) hf

theorem pendingDel_iff {s : Sys} {w : Rec} (h7 : w.runState = 7) : PendingDel s w ↔ Pend (Wants · w) s w := by
  refine or_congr Iff.rfl (exists_congr fun i => exists_congr fun e => and_congr_right fun _ => and_congr_right fun _ => ?_)
  constructor
  · intro hk p hp _
    rw [(wants_rdd h7 p).mp hp]; exact hk
  · exact fun hk => hk _ ((wants_rdd h7 _).mpr rfl) rfl

theorem tok_iff (s : Sys) : TokInv s ↔ Tok s := by
  constructor
  · intro h
    refine ⟨fun rid w hw ⟨p, hp⟩ => ?_, fun p hp => ?_, fun p i u hp hps => ?_⟩
    · cases p
      case step st k n => exact (pendingAt_iff hp.2).mp (h.pending rid w hw hp.2)
      case delete => exact (pendingDel_iff hp).mp (h.pendingDel rid w hw hp)
      all_goals exact hp.elim
    · cases p
      case step st k n => exact h.cursorLe st k n
      case delete => exact h.cursorLeDel
      all_goals cases hp
    · cases p
      case step st k n => exact ⟨(fun h => nomatch h), h.lag st k n i u hps⟩
      case delete => exact absurd hps (h.noLagDel i u)
      all_goals cases hp
  · intro h
    exact ⟨fun rid w hw hl => (pendingAt_iff hl).mpr (h.pend rid w hw ⟨.step w.status 0 0, rfl, hl⟩),
      fun st k n => h.cursorLe _ rfl, fun st k n i u hps => (h.lag _ i u rfl hps).2,
      fun rid w hw h7 => (pendingDel_iff h7).mpr (h.pend rid w hw ⟨.delete, h7⟩), h.cursorLe _ rfl,
      fun i u hps => (h.lag _ i u rfl hps).1 rfl⟩

theorem Tok.init : Tok {} :=
  ⟨fun rid w h => by simp [Sys.cur] at h, fun _ _ => by simp [Sys.cursor], fun _ _ _ _ h => by simp [Sys.pstate] at h⟩

theorem LagOk.mono {s s' : Sys} {p : Proc} {i : Nat} (h : LagOk s p i)
    (hlog : ∀ j, j < s.log.length → s'.log[j]? = s.log[j]?) (hcur : s.cursor p ≤ s'.cursor p) : LagOk s' p i := by
  obtain ⟨⟨e, he, hsub⟩, hg⟩ := h
  have hi : i < s.log.length := (List.getElem?_eq_some_iff.mp he).1
  refine ⟨⟨e, by rw [hlog i hi]; exact he, hsub⟩, fun j e' h1 h2 h3 => ?_⟩
  rw [hlog j (by omega)] at h3
  exact hg j e' (by omega) h2 h3

/-- what `Recv` answers is what the lag wait holds -/
theorem LagOk.of_nextIndex {s : Sys} {p : Proc} {i : Nat} (h : s.nextIndex p = some i) : LagOk s p i := nextIndex_spec h

variable {C : Proc → Prop}

theorem Pend.mono {s s' : Sys} {w : Rec} (h : Pend C s w) (hob : ∀ o ∈ s.outbox, o ∈ s'.outbox)
    (hlog : ∀ (i : Nat) e, s.log[i]? = some e → s'.log[i]? = some e) (hcur : ∀ p, C p → s'.cursor p = s.cursor p) : Pend C s' w := by
  rcases h with ⟨o, ho, he⟩ | ⟨i, e, hi, hc, hk⟩
  · exact Or.inl ⟨o, hob o ho, he⟩
  · exact Or.inr ⟨i, e, hlog i e hi, hc, fun p hp hf => by rw [hcur p hp]; exact hk p hp hf⟩

/-- the relay publishes an entry and removes it: the event went to the end of the log, where no cursor has been -/
theorem Pend.relaySendDelete {s : Sys} {w : Rec} (h : Pend C s w) (o : OutE) (t : Int)
    (huniq : ∀ o' ∈ s.outbox, o'.ord = o.ord → o' = o) (hle : ∀ p, C p → s.cursor p ≤ s.log.length) :
    Pend C ((s.relaySend { o.ev with createdAt := t }).relayDelete o.ord) w := by
  rcases h with ⟨o', ho', he⟩ | ⟨i, e, hi, hc, hk⟩
  · by_cases hord : o'.ord = o.ord
    · refine Or.inr ⟨s.log.length, { o.ev with createdAt := t }, ?_, ?_, fun p hp _ => hle p hp⟩
      · exact (List.getElem?_append_right (Nat.le_refl _)).trans (by simp)
      · rw [← huniq o' ho' hord, he]; rfl
    · exact Or.inl ⟨o', List.mem_filter.mpr ⟨ho', by simpa using hord⟩, he⟩
  · exact Or.inr ⟨i, e, getElem?_append_some _ hi, hc, hk⟩

/-- consumer `p` acknowledges event `i`, the first of its topic at or after its cursor: whatever it still has to see lies
beyond `i`, unless `i` itself announces `w` to it - which `hne` excludes -/
theorem Pend.ack {s : Sys} {w : Rec} (h : Pend C s w) (p : Proc) (i : Nat) (e : Event) (he : s.log[i]? = some e)
    (hgap : NoGap s p i) (hsub : C p → ∀ e', core e' = Routing.route w → subscribed p e' = true)
    (hne : C p → core e = Routing.route w → filteredOut p i e = false → False) : Pend C (s.setCursor p (i + 1)) w := by
  rcases h with ho | ⟨j, e', hj, hc, hk⟩
  · exact Or.inl ho
  · refine Or.inr ⟨j, e', hj, hc, fun q hq hf => ?_⟩
    by_cases hqp : q = p
    · subst hqp
      rw [cursor_setCursor]
      have hold := hk q hq hf
      have hij : ¬ j < i := fun hlt => by
        have := hgap j e' hold hlt hj
        rw [hsub hq e' hc] at this; cases this
      have hne' : j ≠ i := fun hji => by
        subst hji
        rw [he] at hj; cases hj
        exact hne hq hc hf
      omega
    · rw [cursor_setCursor_ne s p q _ hqp]; exact hk q hq hf

theorem Tok.lag_mono {s s' : Sys} (h : Tok s) (hlog : ∀ j, j < s.log.length → s'.log[j]? = s.log[j]?)
    (hcur : ∀ p, IsStep p = true → s.cursor p ≤ s'.cursor p) {p : Proc} {i : Nat} {u : Int} (hp : IsStep p = true)
    (hps : s.pstate p = .lagWait i u) : p ≠ .delete ∧ LagOk s' p i :=
  let ⟨hd, hl⟩ := h.lag p i u hp hps
  ⟨hd, hl.mono hlog (hcur p hp)⟩

theorem Tok.frame {s s' : Sys} (h : Tok s) (h1 : s'.runs = s.runs) (h2 : s'.outbox = s.outbox) (h3 : s'.log = s.log)
    (h4 : s'.cursors = s.cursors) (h5 : s'.pst = s.pst) : Tok s' := by
  cases s; cases s'; cases h1; cases h2; cases h3; cases h4; cases h5
  exact ⟨h.1, h.2, h.3⟩

theorem cur_write (s : Sys) (cfg : Cfg) (r : Rec) (rid : RunId) (w : Rec) (h : (s.write cfg r).cur rid = some w) :
    w = s.stamped cfg r ∨ s.cur rid = some w := by
  unfold Sys.cur at *
  rw [write_runs', getElem?_writeRuns] at h
  split at h
  · cases hR : s.runs[rid]? <;> rw [hR] at h <;> exact Or.inl (Option.some.inj h).symm
  · exact Or.inr h

theorem Tok.write {s : Sys} (cfg : Cfg) (r : Rec) (h : Tok s) : Tok (s.write cfg r) := by
  rw [write_eq]
  refine ⟨fun rid w hw hp => ?_, h.cursorLe, h.lag⟩
  rcases cur_write s cfg r rid w hw with rfl | hold
  · exact Or.inl ⟨_, List.mem_append_right _ (List.mem_singleton_self _), rfl⟩
  · exact (h.pend rid w hold hp).mono (fun o ho => List.mem_append_left _ ho) (fun _ _ hi => hi) (fun _ _ => rfl)

theorem Tok.stableH (cfg : Cfg) : StableH Tok cfg where
  write := fun _ r h => h.write cfg r
  timerCreate := fun _ _ _ _ _ h => h.frame rfl rfl rfl rfl rfl
  timerComplete := fun _ _ h => h.frame rfl rfl rfl rfl rfl
  timerCancel := fun _ _ h => h.frame rfl rfl rfl rfl rfl
  setCount := fun _ _ _ h => h.frame rfl rfl rfl rfl rfl
  setHandles := fun _ _ h => h.frame rfl rfl rfl rfl rfl

theorem Tok.setCursor_other {s : Sys} (h : Tok s) (p : Proc) (n : Nat) (hp : IsStep p = false) : Tok (s.setCursor p n) := by
  have hc : ∀ q, IsStep q = true → (s.setCursor p n).cursor q = s.cursor q := fun q hq =>
    cursor_setCursor_ne s p q n (fun heq => by rw [heq, hp] at hq; cases hq)
  refine ⟨fun rid w hw hq => ?_, fun q hq => by rw [hc q hq]; exact h.cursorLe q hq, fun q i u hq hps => ?_⟩
  · exact (h.pend rid w hw hq).mono (fun _ ho => ho) (fun _ _ hi => hi) (fun q hq => hc q hq.isStep)
  · exact h.lag_mono (s' := s.setCursor p n) (fun _ _ => rfl) (fun q hq => Nat.le_of_eq (hc q hq).symm) hq hps

/-- parking a process: into the lag wait only a step consumer, with the event it holds -/
theorem Tok.setPState {s : Sys} (h : Tok s) (p : Proc) (x : PState)
    (hx : ∀ i u, x = .lagWait i u → IsStep p = true → p ≠ .delete ∧ LagOk s p i) : Tok (s.setPState p x) := by
  refine ⟨h.pend, h.cursorLe, fun q i u hq hps => ?_⟩
  by_cases hqp : q = p
  · subst hqp
    rw [pstate_setPState] at hps
    exact hx i u hps hq
  · rw [pstate_setPState_ne s p q x hqp] at hps
    exact h.lag q i u hq hps

theorem Tok.relaySend {s : Sys} (h : Tok s) (e : Event) : Tok (s.relaySend e) := by
  refine ⟨fun rid w hw hp => ?_, fun p hp => ?_, fun p i u hp hps => ?_⟩
  · exact (h.pend rid w hw hp).mono (fun _ ho => ho) (fun _ _ hi => getElem?_append_some _ hi) (fun _ _ => rfl)
  · exact Nat.le_trans (h.cursorLe p hp) (by simp [Sys.relaySend])
  · exact h.lag_mono (s' := s.relaySend e) (fun j hj => List.getElem?_append_left hj) (fun _ _ => Nat.le_refl _) hp hps

theorem Tok.relaySendDelete {s : Sys} (h : Tok s) (o : OutE) (t : Int) (huniq : ∀ o' ∈ s.outbox, o'.ord = o.ord → o' = o) :
    Tok ((s.relaySend { o.ev with createdAt := t }).relayDelete o.ord) :=
  -- removing the entry touches the outbox only: the cursor and lag clauses are those after the send
  have h' := h.relaySend { o.ev with createdAt := t }
  ⟨fun rid w hw hp => (h.pend rid w hw hp).relaySendDelete o t huniq fun p hp => h.cursorLe p hp.isStep, h'.cursorLe, h'.lag⟩

theorem live_route_subscribed {w : Rec} (hl : Live w) {e : Event} (hc : core e = Routing.route w) (k n : Int) :
    subscribed (.step w.status k n) e = true := by
  have h1 : e.topicKind = (Routing.route w).topicKind := by rw [← hc]; rfl
  have h2 : e.topicStatus = (Routing.route w).topicStatus := by rw [← hc]; rfl
  have hk : Gen.outboxTopicKind w.runState = 0 := by rcases hl with h | h <;> rw [h] <;> rfl
  simp [subscribed, h1, h2, Routing.route, hk]

theorem rdd_route_subscribed {w : Rec} (h7 : w.runState = 7) {e : Event} (hc : core e = Routing.route w) :
    subscribed .delete e = true := by
  have h1 : e.topicKind = (Routing.route w).topicKind := by rw [← hc]; rfl
  have hk := Routing.topicKind_delete.mpr h7
  simp [subscribed, h1, Routing.route, hk]

theorem Wants.subscribed {p : Proc} {w : Rec} (h : Wants p w) {e : Event} (hc : core e = Routing.route w) : subscribed p e = true := by
  cases p
  case step s k n => rw [← h.1]; exact live_route_subscribed h.2 hc k n
  case delete => exact rdd_route_subscribed h hc
  all_goals exact h.elim

/-- `hps`: if `p` is parked in the lag wait, then on the event it acknowledges - the lag clause for `p` itself then holds of the
new cursor `i + 1` with nothing in between -/
theorem Tok.ack {cfg : Cfg} {s : Sys} (h : Tok s) (hh : HistInv cfg s) (p : Proc) (hp : IsStep p = true) (i : Nat) (e : Event)
    (he : s.log[i]? = some e) (hgap : NoGap s p i) (hps : ∀ i' u, s.pstate p = .lagWait i' u → i' = i)
    (hdone : filteredOut p i e = true ∨ Handled p e.runId e.version s.runs) : Tok (s.setCursor p (i + 1)) := by
  have hilt : i < s.log.length := (List.getElem?_eq_some_iff.mp he).1
  refine ⟨fun rid w hw hq => ?_, fun q hq => ?_, fun q i' u hq hqs => ?_⟩
  · refine (h.pend rid w hw hq).ack p i e he hgap (fun hw' _ hc => hw'.subscribed hc) (fun hw' hc hf => ?_)
    rcases hdone with hfo | hd
    · rw [hfo] at hf; cases hf
    · -- `w` is the head of run `rid`, records of run `rid` carry run ID `rid`, and `e` announces `w`
      have hid : e.runId = w.runId := congrArg Event.runId hc
      have hver : e.version = w.version := congrArg Event.version hc
      have hcur : curR s.runs e.runId = some w := by
        rw [hid, (isHead_of_curR hh (s := s) hw).2]; exact hw
      exact hd w hcur hw' hver.symm
  · by_cases hqp : q = p
    · rw [hqp, cursor_setCursor]; exact hilt
    · rw [cursor_setCursor_ne s p q _ hqp]; exact h.cursorLe q hq
  · obtain ⟨hd, hl⟩ := h.lag q i' u hq hqs
    refine ⟨hd, ?_⟩
    by_cases hqp : q = p
    · subst hqp
      have := hps i' u hqs
      subst this
      exact ⟨hl.1, fun j _ h1 h2 _ => by rw [cursor_setCursor] at h1; omega⟩
    · exact hl.mono (fun _ _ => rfl) (by rw [cursor_setCursor_ne s p q _ hqp]; exact Nat.le_refl _)

/-- what is asked of the handler of a tracked consumer: legal writes only, and after a normal return the announced version
needs no further handling by `p` -/
def Handles (cfg : Cfg) (env : Env) (p : Proc) : Prop :=
  ∀ e, HT cfg env (fun R => p = .delete → HasRDD R e.runId) (handle cfg p e) (fun _ R => Handled p e.runId e.version R)

section Tracked
variable {cfg : Cfg} {env : Env} {p : Proc} (hp : IsStep p = true) (hH : Handles cfg env p)
include hp hH

theorem deliver_tok (i : Nat) (e : Event) (st : OpSt) (hi : Inv cfg st.sys) (hz : st.stale = 0) (ht : Tok st.sys)
    (he : st.sys.log[i]? = some e) (hsub : subscribed p e = true) (hgap : NoGap st.sys p i)
    (hps : ∀ i' u, st.sys.pstate p = .lagWait i' u → i' = i) : Tok (deliver cfg p i e env st).2.sys := by
  unfold deliver
  split
  · rename_i hfo
    rcases ack_sys p i env st with h | h <;> rw [h]
    · exact ht
    · exact ht.ack hi.hist p hp i e he hgap hps (Or.inl hfo)
  · rw [bind_run]
    -- what the handler does: the triple (legal histories; handled on a normal return), the token invariant, the frame
    obtain ⟨hInv, _, hHandled⟩ := hH e st hi hz
      (fun hd => hasRDD_of_delete_event hi (List.mem_of_getElem? he) (subscribed_delete (hd ▸ hsub)))
    have hTok := Pres.handle (Tok.stableH cfg) p e env st ht
    obtain ⟨hcurs, hpst, hlog⟩ := handle_frame cfg p e env st
    rcases hh : handle cfg p e env st with ⟨r, st1⟩
    rw [hh] at hInv hHandled hTok hcurs hlog hpst
    cases r with
    | error a => exact hTok
    | ok u =>
      have hc : st1.sys.cursor p = st.sys.cursor p := by unfold Sys.cursor; rw [hcurs]
      have hq : st1.sys.pstate p = st.sys.pstate p := by unfold Sys.pstate; rw [hpst]
      rcases ack_sys p i env st1 with h | h <;> rw [h]
      · exact hTok
      · exact hTok.ack hInv.hist p hp i e (hlog ▸ he) (fun j e' h1 h2 h3 => hgap j e' (hc ▸ h1) h2 (hlog ▸ h3))
          (fun i' u hl => hps i' u (hq ▸ hl)) (Or.inr (hHandled () rfl))

/-- the body of an operation of a tracked consumer: if it parks the consumer in the lag wait (only a step consumer), then with
the event `Recv` answered in hand -/
theorem procBody_tok (st : OpSt) (hi : Inv cfg st.sys) (hz : st.stale = 0) (ht : Tok st.sys) :
    Tok (procBody cfg p (st.sys.pstate p) env st).2.sys ∧
    ∀ i u, (procBody cfg p (st.sys.pstate p) env st).1 = .ok (.lagWait i u) →
      p ≠ .delete ∧ LagOk (procBody cfg p (st.sys.pstate p) env st).2.sys p i := by
  obtain ⟨w, st1, hw, hs, hst, he⟩ := procBody_work cfg p (st.sys.pstate p) env st
  rw [he]
  -- the work starts in `st1`, which has the system of `st`
  have ht1 : Tok st1.sys := hs ▸ ht
  cases hw with
  | fail => exact ⟨ht1, fun _ _ h => nomatch h⟩
  | park ps' hlag =>
    refine ⟨ht1, fun i u hr => ?_⟩
    cases hr
    obtain ⟨_, hni, hpos⟩ := hlag i u rfl
    exact ⟨fun hd => by rw [hd] at hpos; exact Int.lt_irrefl 0 hpos, hs ▸ LagOk.of_nextIndex hni⟩
  | relay h => rw [h] at hp; cases hp
  | poll _ _ h => rw [h] at hp; cases hp
  | deliver i e hle hsub hfrom =>
    rw [bind_run]
    -- nothing of the topic lies before the event: the invariant says so of the lag wait, or `Recv` skipped it just now
    have hgap : NoGap st.sys p i :=
      hfrom.elim (fun ⟨u, hu⟩ => (ht.lag p i u hp hu).2.2) fun h => (LagOk.of_nextIndex h.2).2
    -- and if the consumer is parked in the lag wait, then on this very event
    have hpark : ∀ i' u', st1.sys.pstate p = .lagWait i' u' → i' = i := fun i' u' hl =>
      hfrom.elim (fun ⟨u, hu⟩ => by rw [hs, hu] at hl; cases hl; rfl) fun h => by rw [hs, h.1] at hl; cases hl
    have htok := deliver_tok hp hH i e st1 (hs ▸ hi) (hst.trans hz) ht1 (hs ▸ hle) hsub (hs ▸ hgap) hpark
    generalize deliver cfg p i e env st1 = d at htok ⊢
    rcases d with ⟨_ | _, st2⟩ <;> exact ⟨htok, fun _ _ h => nomatch h⟩

theorem procOp_tok (st : OpSt) (hi : Inv cfg st.sys) (hz : st.stale = 0) (ht : Tok st.sys) : Tok (procOp cfg p env st).2.sys := by
  obtain ⟨h1, h2⟩ := procBody_tok hp hH st hi hz ht
  rw [procOp_sys]
  -- the process is parked in the lag wait only by a normal return of the body under a live lease
  refine h1.setPState p _ fun i u hl _ => ?_
  split at hl
  · cases hl
  · split at hl
    · next ps' hb => exact h2 i u (hl ▸ hb)
    · cases hl

end Tracked

/-! ## in terms of `TokInv`: what `Props/History.lean` uses -/

theorem tokInv_eq : TokInv = Tok := funext fun s => propext (tok_iff s)

theorem TokInv.init : TokInv {} := tokInv_eq ▸ Tok.init

theorem TokInv.stableH (cfg : Cfg) : StableH TokInv cfg := tokInv_eq ▸ Tok.stableH cfg

theorem TokInv.tick {s : Sys} (h : TokInv s) (d : Int) : TokInv (s.tick d) := by
  rw [tokInv_eq] at h ⊢
  exact h.frame rfl rfl rfl rfl rfl

theorem TokInv.relaySend {s : Sys} (h : TokInv s) (e : Event) : TokInv (s.relaySend e) := by
  rw [tokInv_eq] at h ⊢
  exact h.relaySend e

theorem leaseLossOp_tok {cfg : Cfg} (p : Proc) : Pres TokInv (leaseLossOp cfg p) :=
  tokInv_eq ▸ Pres.leaseLossOp p fun _ hi => hi.setPState p .needRole (fun _ _ hl => by cases hl)

/-- relay invariant + token invariant: what the processes that are not tracked preserve -/
def RT (s : Sys) : Prop := RelayInv s ∧ TokInv s

theorem procOp_other_RT {cfg : Cfg} (p : Proc) (hp : IsStep p = false) : Pres RT (Engine.procOp cfg p) := by
  unfold RT
  rw [tokInv_eq]
  exact Pres.procOp_of p ((RelayInv.stable cfg).toStableH.and (Tok.stableH cfg))
    (Pres.relayOp_of cfg (fun _ h => h.1) (fun _ o t h hw => ⟨h.1.publish o t hw, h.2.relaySend _⟩)
      (fun _ o t h hu hw => ⟨h.1.publishDelete o t hu hw, h.2.relaySendDelete o t hu⟩))
    (fun s n h => ⟨(RelayInv.stable cfg).setCursor s p n h.1, h.2.setCursor_other p n hp⟩)
    (fun s x h => ⟨(RelayInv.stable cfg).setPState s p x h.1, h.2.setPState p x (fun _ _ _ hq => by rw [hp] at hq; cases hq)⟩)

variable {cfg : Cfg} {env : Env}

theorem procOp_step_tok (hn : NoNested env) (hs : NoSkip env) (S : Status) (k n : Int) (st : OpSt)
    (hi : Inv cfg st.sys) (hz : st.stale = 0) (ht : TokInv st.sys) :
    TokInv (procOp cfg (.step S k n) env st).2.sys :=
  tokInv_eq ▸ procOp_tok (p := .step S k n) rfl (fun e => HT.post (handle_ht hn _ e) (fun _ _ _ h => h hs)) st hi hz (tokInv_eq ▸ ht)

theorem procOp_delete_tok (st : OpSt) (hi : Inv cfg st.sys) (hz : st.stale = 0) (ht : TokInv st.sys) :
    TokInv (procOp cfg .delete env st).2.sys :=
  tokInv_eq ▸ procOp_tok (p := .delete) rfl (fun e => HT.pre (fun _ _ hp => hp rfl) (handle_delete_ht e)) st hi hz (tokInv_eq ▸ ht)

theorem enabled_of_pending (s : Sys) (p : Proc) (i : Nat) (e : Event) (hp : s.pstate p = .atRecv)
    (he : s.log[i]? = some e) (hs : subscribed p e = true) (hc : s.cursor p ≤ i) : s.enabled p = true := by
  unfold Sys.enabled
  rw [hp]
  exact nextIndex_isSome hc he hs

theorem pendingAtB_of {s : Sys} {w : Rec} (h : PendingAt s w) : pendingAtB s w = true := by
  unfold pendingAtB
  simp only [Bool.or_eq_true, List.any_eq_true]
  rcases h with ⟨o, ho, he⟩ | ⟨i, e, hi, hc, hk⟩
  · exact Or.inl ⟨o, ho, beq_iff_eq.mpr he⟩
  · refine Or.inr ⟨i, List.mem_range.mpr (List.getElem?_eq_some_iff.mp hi).1, ?_⟩
    rw [hi]
    simp only [Bool.and_eq_true, List.all_eq_true]
    refine ⟨beq_iff_eq.mpr (hc : coreEv e = _), fun pc _ => ?_⟩
    split
    · next st k n _ =>
      by_cases hst : st = w.status
      · subst hst
        cases hf : filteredOut (Proc.step w.status k n) i e
        · simp [hk k n hf]
        · simp
      · simp [hst]
    · rfl

theorem tokOK_of {s : Sys} (ht : TokInv s) : tokOK s = true := by
  unfold tokOK
  simp only [List.all_eq_true]
  intro x hx
  obtain ⟨idx, hget⟩ := List.getElem?_of_mem hx
  split
  · rfl
  · next w hh =>
    by_cases hl : w.runState = 1 ∨ w.runState = 2
    · simp [pendingAtB_of (ht.pending idx w (by unfold Sys.cur; rw [hget]; exact hh) hl)]
    · simp [not_or.mp hl]

end WorkflowModel.Engine
