import WorkflowModel.Model.Text
/-! Lemmas about decimal rendering: injectivity and digit range. -/
namespace WorkflowModel.Text

def valOf (l : Str) : Nat := l.foldl (fun acc c => acc * 10 + (c - 48)) 0

theorem valOf_natDigits (n : Nat) : valOf (natDigits n) = n := by
  induction n using natDigits.induct with
  | case1 n h => rw [natDigits, if_pos h]; show 0 * 10 + (48 + n - 48) = n; omega
  | case2 n h ih =>
    rw [natDigits, if_neg h]
    unfold valOf at ih ⊢
    rw [List.foldl_append, ih]
    show n / 10 * 10 + (48 + n % 10 - 48) = n
    omega

theorem natDigits_inj {a b : Nat} (h : natDigits a = natDigits b) : a = b := by
  rw [← valOf_natDigits a, h, valOf_natDigits]

theorem natDigits_all_digit (n : Nat) : ∀ c ∈ natDigits n, 48 ≤ c ∧ c ≤ 57 := by
  induction n using natDigits.induct with
  | case1 n h =>
    rw [natDigits, if_pos h]
    intro c hc
    rw [List.mem_singleton.mp hc]; omega
  | case2 n h ih =>
    rw [natDigits, if_neg h]
    intro c hc
    rcases List.mem_append.mp hc with hc | hc
    · exact ih c hc
    · rw [List.mem_singleton.mp hc]; omega

theorem natDigits_no_dash (n : Nat) : 45 ∉ natDigits n :=
  fun h => absurd (natDigits_all_digit n 45 h).1 (by decide)

theorem intDec_inj {a b : Int} (h : intDec a = intDec b) : a = b := by
  unfold intDec at h
  split at h <;> split at h
  · have := natDigits_inj (List.cons.inj h).2; omega
  · exact absurd (h ▸ List.mem_cons_self) (natDigits_no_dash _)
  · exact absurd (h ▸ List.mem_cons_self) (natDigits_no_dash _)
  · have := natDigits_inj h; omega

/-- every byte of a decimal rendering is `-` or a digit -/
theorem intDec_bytes (a : Int) : ∀ c ∈ intDec a, c = 45 ∨ (48 ≤ c ∧ c ≤ 57) := by
  intro c hc
  unfold intDec at hc
  split at hc
  · exact (List.mem_cons.mp hc).imp id (natDigits_all_digit _ c)
  · exact Or.inr (natDigits_all_digit _ c hc)

theorem intDec_no_dash {a : Int} (h : 0 ≤ a) : 45 ∉ intDec a := by
  unfold intDec
  rw [if_neg (Int.not_lt.mpr h)]
  exact natDigits_no_dash _

end WorkflowModel.Text
