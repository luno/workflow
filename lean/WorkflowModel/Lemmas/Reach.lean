import WorkflowModel.Lemmas.Relay
/-! # From operations to every reachable state

`StepInv I cfg`: the invariant `I` is preserved by every handler (`Stable`), by the relay cycle and by the
adversarial duplication of a published event. Then `I` holds in every state reachable by any list of actions:
any interleaving of API calls, process operations with any fault plan and any user-function outcomes, lease
losses, clock advances, cursor rewinds and duplicate deliveries. -/
namespace WorkflowModel.Engine

structure StepInv (I : Sys → Prop) (cfg : Cfg) : Prop where
  stable : Stable I cfg
  relay : Pres I (relayOp cfg)
  dup : ∀ s e, I s → e ∈ s.log → I (s.relaySend e)
  init : I {}

variable {I : Sys → Prop} {cfg : Cfg}

theorem Pres.procBody (h : StepInv I cfg) (p : Proc) (ps : PState) : Pres I (procBody cfg p ps) :=
  .procBody_of p h.stable.toStableH h.relay (fun s n => h.stable.setCursor s p n) ps

theorem Pres.procOp (h : StepInv I cfg) (p : Proc) : Pres I (procOp cfg p) :=
  .procOp_of p h.stable.toStableH h.relay (fun s n => h.stable.setCursor s p n) (fun s x => h.stable.setPState s p x)

theorem apiOut_sys (r : Except Abort String × OpSt) : (apiOut r).sys = r.2.sys := by
  unfold apiOut
  split <;> rfl

def Act.IsApi : Act → Prop
  | .trigger .. | .callback .. | .ctl .. | .handle _ | .hctl .. => True
  | _ => False

theorem stepAct_api (h : StableH I cfg) (s : Sys) (a : Act) (ha : a.IsApi) (hi : I s) : I (stepAct cfg s a).sys := by
  cases a <;> first | exact ha.elim | simp only [stepAct, apiOut_sys]
  case trigger fid start n env => exact Pres.triggerApi h fid start n env _ hi
  case callback fid status env => exact Pres.bind (Pres.callbackApi h _ _ _) (fun _ => Pres.pure _) env _ hi
  case ctl rid op env => exact Pres.ctlFreshApi h rid op env _ hi
  case handle rid => exact Pres.handleApi h rid {} _ hi
  case hctl hd op env => exact Pres.hctlApi h hd op env _ hi

theorem StepInv.step (h : StepInv I cfg) (s : Sys) (a : Act) (hi : I s) : I (stepAct cfg s a).sys := by
  have hs := h.stable
  cases a with
  | step p env =>
    simp only [stepAct]
    split
    · exact Pres.procOp h p env _ hi
    · exact hi
  | lease p => exact Pres.leaseLossOp (cfg := cfg) p (fun s => hs.setPState s p _) _ _ hi
  | tick sec => exact hs.tick s sec hi
  | rewind p idx =>
    simp only [stepAct]
    split
    · exact hs.setCursor s p idx hi
    · exact hi
  | dup idx =>
    simp only [stepAct]
    split
    · rename_i e he
      exact h.dup s e hi (List.mem_of_getElem? he)
    · exact hi
  | _ => exact stepAct_api hs.toStableH s _ trivial hi

/-- induction over the actions: what every permitted action preserves holds after any list of them -/
theorem runActs_ind {J : Sys → Prop} {F : Act → Prop} (hstep : ∀ s a, F a → J s → J (stepAct cfg s a).sys) :
    ∀ (as : List Act) (s : Sys), (∀ a ∈ as, F a) → J s → J (runActs cfg s as)
  | [], _, _, hj => hj
  | a :: as, s, hf, hj =>
    runActs_ind hstep as _ (fun b hb => hf b (List.mem_cons_of_mem _ hb)) (hstep s a (hf a (List.mem_cons_self ..)) hj)

theorem reachable_inv (h : StepInv I cfg) (as : List Act) : I (runActs cfg {} as) :=
  runActs_ind (F := fun _ => True) (fun s a _ => h.step s a) as {} (fun _ _ => trivial) h.init

theorem RelayInv.stepInv (cfg : Cfg) : StepInv RelayInv cfg where
  stable := RelayInv.stable cfg
  relay := Pres.relayOp cfg
  dup := fun _ e hi he => hi.relaySend e (hi.log_written e he)
  init := RelayInv.init

end WorkflowModel.Engine
