import WorkflowModel.Model.Routing
/-! The topic decision of `MakeOutboxEventData` (`Gen.outboxTopicKind`, regenerated from event.go), in closed form. -/
namespace WorkflowModel.Routing

/-- `Gen.outboxTopicKind` keeps the sequential `if`s of the source; this is the decision they compute -/
theorem outboxTopicKind_eq (rs : Int) :
    Gen.outboxTopicKind rs = if rs = 3 ∨ rs = 4 ∨ rs = 5 ∨ rs = 6 then 2 else if rs = 7 then 1 else 0 := by
  split
  · next h => rcases h with rfl | rfl | rfl | rfl <;> rfl
  · split
    · next h7 => rw [h7]; rfl
    · next h h7 =>
      simp only [not_or] at h
      simp [Gen.outboxTopicKind, Gen.RunStateRequestedDataDeleted, Gen.RunStatePaused, Gen.RunStateCancelled,
        Gen.RunStateDataDeleted, Gen.RunStateCompleted, h, h7]

/-- only a delete request goes to the delete topic -/
theorem topicKind_delete {rs : Int} : Gen.outboxTopicKind rs = 1 ↔ rs = 7 := by
  rw [outboxTopicKind_eq]
  split
  · next h => exact ⟨nofun, fun h7 => by omega⟩
  · split
    · next h7 => exact ⟨fun _ => h7, fun _ => rfl⟩
    · next h7 => exact ⟨nofun, fun h => absurd h h7⟩

/-- Initiated and Running are the only run states in range that are announced on a status topic -/
theorem topicKind_status {rs : Int} (h1 : 1 ≤ rs) (h7 : rs ≤ 7) : Gen.outboxTopicKind rs = 0 ↔ rs = 1 ∨ rs = 2 := by
  rw [outboxTopicKind_eq]
  split
  · next h => exact ⟨nofun, fun h' => by omega⟩
  · split
    · next h7' => exact ⟨nofun, fun h' => by omega⟩
    · next h h7' => exact ⟨fun _ => by omega, fun _ => rfl⟩

end WorkflowModel.Routing
