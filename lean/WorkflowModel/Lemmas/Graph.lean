import WorkflowModel.Model.Graph
/-! Order-independent characterisations of the status graph (used by C02, C03): what one `AddTransition` does to
each map, read against the list of calls made so far. -/
namespace WorkflowModel.Graph

theorem upd_self {β} (f : Int → β) (k : Int) (v : β) : upd f k v k = v := if_pos rfl

theorem upd_ne {β} (f : Int → β) {k i : Int} (v : β) (h : i ≠ k) : upd f k v i = f i := if_neg h

theorem upd_true (f : Int → Bool) (k i : Int) : upd f k true i = true ↔ f i = true ∨ i = k := by
  by_cases h : i = k
  · simp [h, upd_self]
  · simp [h, upd_ne]

theorem mem_graph_add (g : G) (e : Int × Int) (a b : Int) :
    b ∈ (add g e).graph a ↔ b ∈ g.graph a ∨ (a, b) = e := by
  show b ∈ upd g.graph e.1 (g.graph e.1 ++ [e.2]) a ↔ _
  by_cases h : a = e.1
  · simp [h, upd_self, Prod.ext_iff]
  · simp [h, upd_ne, Prod.ext_iff]

theorem hasGraph_add (g : G) (e : Int × Int) (a : Int) :
    (add g e).hasGraph a = true ↔ g.hasGraph a = true ∨ a = e.1 := upd_true ..

theorem valid_add (g : G) (e : Int × Int) (n : Int) :
    (add g e).valid n = true ↔ g.valid n = true ∨ e.1 = n ∨ e.2 = n := by
  rw [eq_comm (a := e.1), eq_comm (a := e.2)]
  exact (upd_true ..).trans ((or_congr_left (upd_true ..)).trans or_assoc)

/-- `if _, ok := t[k]; ok { t[k] = false }` -/
theorem overwrite_eq_true (t : Int → Option Bool) (k n : Int) :
    (if (t k).isSome then upd t k (some false) else t) n = some true ↔ t n = some true ∧ n ≠ k := by
  by_cases h : n = k
  · subst h
    cases ht : t n <;> simp [ht, upd_self]
  · split <;> simp [h, upd_ne]

/-- `if !f[k] { t[k] = true }` -/
theorem insert_eq_true (f : Int → Bool) (t : Int → Option Bool) (k n : Int) :
    (if f k then t else upd t k (some true)) n = some true ↔ t n = some true ∨ (n = k ∧ f n = false) := by
  by_cases h : n = k
  · subst h
    cases f n <;> simp [upd_self]
  · split <;> simp [h, upd_ne]

/-- The source of the new edge is never terminal afterwards; any other node is terminal if it was, or if it is the
destination and had no outgoing edge yet. -/
theorem terminal_add (g : G) (e : Int × Int) (n : Int) :
    (add g e).terminal n = some true ↔
      (g.terminal n = some true ∨ (n = e.2 ∧ g.hasGraph n = false)) ∧ n ≠ e.1 :=
  (overwrite_eq_true _ e.1 n).trans (and_congr_left fun _ => insert_eq_true g.hasGraph g.terminal e.2 n)

theorem exists_out_append (es : List (Int × Int)) (e : Int × Int) (n : Int) :
    (∃ b, (n, b) ∈ es ++ [e]) ↔ (∃ b, (n, b) ∈ es) ∨ n = e.1 := by
  simp [exists_or, Prod.ext_iff]

theorem exists_in_append (es : List (Int × Int)) (e : Int × Int) (n : Int) :
    (∃ a, (a, n) ∈ es ++ [e]) ↔ (∃ a, (a, n) ∈ es) ∨ n = e.2 := by
  simp [exists_or, Prod.ext_iff]

/-- invariant tying four of the maps to the list of builder calls made so far -/
structure Spec (g : G) (es : List (Int × Int)) : Prop where
  graph    : ∀ a b, b ∈ g.graph a ↔ (a, b) ∈ es
  hasGraph : ∀ a, g.hasGraph a = true ↔ ∃ b, (a, b) ∈ es
  valid    : ∀ n, g.valid n = true ↔ ∃ p ∈ es, p.1 = n ∨ p.2 = n
  terminal : ∀ n, g.terminal n = some true ↔ ((∃ a, (a, n) ∈ es) ∧ ¬ ∃ b, (n, b) ∈ es)

theorem spec_empty : Spec empty [] := by
  constructor <;> intros <;> simp [empty]

theorem spec_add (g : G) (es : List (Int × Int)) (e : Int × Int) (h : Spec g es) : Spec (add g e) (es ++ [e]) where
  graph a b := by
    rw [mem_graph_add, h.graph, List.mem_append, List.mem_singleton]
  hasGraph a := by
    rw [hasGraph_add, h.hasGraph, exists_out_append]
  valid n := by
    simp [valid_add, h.valid, or_and_right, exists_or]
  terminal n := by
    rw [terminal_add, h.terminal, ← Bool.not_eq_true, h.hasGraph, ← or_and_right, and_assoc, ← not_or,
      exists_in_append, exists_out_append]

theorem spec_foldl : ∀ (es' : List (Int × Int)) (g : G) (es : List (Int × Int)),
    Spec g es → Spec (es'.foldl add g) (es ++ es')
  | [], _, _, h => by simpa using h
  | e :: es', g, es, h => by simpa using spec_foldl es' (add g e) (es ++ [e]) (spec_add g es e h)

theorem spec_build (es : List (Int × Int)) : Spec (build es) es := by
  simpa [build] using spec_foldl es empty [] spec_empty

/-- the declared-edge relation is exactly the builder calls: independent of their order -/
theorem mem_transitions_iff (es : List (Int × Int)) (a b : Int) :
    b ∈ transitions (build es) a ↔ (a, b) ∈ es := (spec_build es).graph a b

/-- terminal = is a destination and never a source: independent of the order of builder calls -/
theorem isTerminal_iff (es : List (Int × Int)) (n : Int) :
    isTerminal (build es) n = true ↔ ((∃ a, (a, n) ∈ es) ∧ ¬ ∃ b, (n, b) ∈ es) := by
  simp only [isTerminal, beq_iff_eq]
  exact (spec_build es).terminal n

theorem isValid_iff (es : List (Int × Int)) (n : Int) :
    isValid (build es) n = true ↔ ∃ p ∈ es, p.1 = n ∨ p.2 = n := (spec_build es).valid n

end WorkflowModel.Graph
