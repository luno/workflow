import WorkflowModel.Lemmas.Pres
/-! # Invariants that every primitive preserves are preserved by every operation

`StableH I cfg`: each primitive the handlers may apply preserves `I` unconditionally. Then every handler, every
API call and every process operation other than the relay cycle preserves `I`, for all environments (fault plans,
user-function outcomes incl. re-entrant ones, stale reads). The consume loop and the supervision loop of a process `p`
also move `p`'s cursor and parking state: their lemmas ask for those two primitives for that `p` only. The relay
primitives (`relaySend`, `relayDelete`) are guarded and are dealt with per invariant.

Every proof below follows the definition it is about: one `Pres` rule per monad operation, one case per branch. The one
exception is the supervision loop: what an operation can consist of is said once (`Work`, `procBody_work` in Lemmas/Shapes.lean),
and each logic - this one, the triples of Lemmas/HistOps.lean, the token invariant - treats the five kinds of work. -/
namespace WorkflowModel.Engine

/-- the primitives event handlers, the timeout poller and the API calls may apply -/
structure StableH (I : Sys → Prop) (cfg : Cfg) : Prop where
  write : ∀ s r, I s → I (s.write cfg r)
  timerCreate : ∀ s f r st e, I s → I (s.timerCreate f r st e)
  timerComplete : ∀ s id, I s → I (s.timerComplete id)
  timerCancel : ∀ s id, I s → I (s.timerCancel id)
  setCount : ∀ s k v, I s → I (s.setCount k v)
  setHandles : ∀ s h, I s → I { s with handles := h }

/-- … plus those of the consume loop, the supervision loop and the clock -/
structure Stable (I : Sys → Prop) (cfg : Cfg) : Prop extends StableH I cfg where
  setCursor : ∀ s p n, I s → I (s.setCursor p n)
  setPState : ∀ s p st, I s → I (s.setPState p st)
  tick : ∀ s d, I s → I (s.tick d)

variable {I : Sys → Prop} {cfg : Cfg}

theorem StableH.and {J : Sys → Prop} (h1 : StableH I cfg) (h2 : StableH J cfg) : StableH (fun s => I s ∧ J s) cfg where
  write := fun s r h => ⟨h1.write s r h.1, h2.write s r h.2⟩
  timerCreate := fun s a b c d h => ⟨h1.timerCreate s a b c d h.1, h2.timerCreate s a b c d h.2⟩
  timerComplete := fun s a h => ⟨h1.timerComplete s a h.1, h2.timerComplete s a h.2⟩
  timerCancel := fun s a h => ⟨h1.timerCancel s a h.1, h2.timerCancel s a h.2⟩
  setCount := fun s a b h => ⟨h1.setCount s a b h.1, h2.setCount s a b h.2⟩
  setHandles := fun s a h => ⟨h1.setHandles s a h.1, h2.setHandles s a h.2⟩

theorem Pres.lookup (rid : RunId) : Pres I (lookup rid) := by
  intro env st hi
  unfold Engine.lookup
  exact Pres.call_ro (I := I) (fun _ => rfl) env { st with stale := 0 } hi

theorem Pres.latest (fid : Fid) : Pres I (latest fid) := by
  unfold Engine.latest
  exact Pres.call_ro (fun _ => rfl)

theorem Pres.store (h : StableH I cfg) (r : Rec) : Pres I (store cfg r) := by
  unfold Engine.store
  exact Pres.call (fun s hi => h.write s r hi)

/-- `ack` touches the cursor of its process only, whether or not the streamer looks at the context -/
theorem Pres.ack_of (p : Proc) (hc : ∀ s n, I s → I (Sys.setCursor s p n)) (i : Nat) : Pres I (ack p i) := by
  intro env st hi
  rcases ack_sys p i env st with h | h <;> rw [h]
  · exact hi
  · exact hc _ _ hi

theorem Pres.ack' (hI : ∀ s p n, I s → I (Sys.setCursor s p n)) (p : Proc) (i : Nat) : Pres I (ack p i) :=
  Pres.ack_of p (fun s n => hI s p n) i

theorem Pres.updateRecord (h : StableH I cfg) (r : Rec) : Pres I (updateRecord cfg r) := by
  unfold Engine.updateRecord; exact Pres.store h _

theorem Pres.ctlUpdateMem (h : StableH I cfg) (mem : Rec) (op : RS.CtlOp) : Pres I (ctlUpdateMem cfg mem op) := by
  unfold Engine.ctlUpdateMem
  refine .ite (.bind (.tryM (.store h _)) fun r => ?_) (.pure _)
  cases r <;> exact .pure _

theorem Pres.ctlUpdate (h : StableH I cfg) (mem : Rec) (op : RS.CtlOp) : Pres I (ctlUpdate cfg mem op) := by
  unfold Engine.ctlUpdate
  refine .bind (.ctlUpdateMem h _ _) fun r => ?_
  rcases r with ⟨_, _ | a⟩
  · exact .pure _
  · exact .throwA _

theorem Pres.updater (h : StableH I cfg) (c n : Status) (run : Rec) (o : Obj) : Pres I (updater cfg c n run o) := by
  unfold Engine.updater
  exact .bind .getSys fun _ => .bindOption (.lookup _) (.throwA _) fun latest => .ite (.pure _) (.ite (.throwA _) (.updateRecord h _))

theorem Pres.callbackGate (h : StableH I cfg) (status : Status) (wr : Rec) (runner : Rec → M (Except Abort FnRes × Rec))
    (hr : ∀ r, Pres I (runner r)) : Pres I (callbackGate cfg status wr runner) := by
  unfold Engine.callbackGate
  refine .ite (.pure _) (.ite (.pure _) (.bind (hr _) fun r => ?_))
  rcases r with ⟨_ | res, _⟩
  · exact .throwA _
  · exact .ite (.pure _) (.updater h _ _ _ _)

theorem Pres.callbackOne (h : StableH I cfg) (fid : Fid) (status : Status) (runner : Rec → M (Except Abort FnRes × Rec))
    (hr : ∀ r, Pres I (runner r)) : Pres I (callbackOne cfg fid status runner) := by
  unfold Engine.callbackOne
  exact .bindOption (.latest _) (.throwA _) fun wr => .callbackGate h _ _ _ hr

/-- user functions (with re-entrant `Callback`s to any depth) and the callback API -/
theorem Pres.runFn_callbackApi (h : StableH I cfg) (fuel : Nat) :
    (∀ kind run mem first, Pres I (runFn cfg kind run mem fuel first)) ∧
    (∀ fid status, Pres I (callbackApi cfg fid status fuel)) := by
  induction fuel with
  | zero =>
    constructor
    · intro kind run mem first; unfold Engine.runFn; exact .pure _
    · intro fid status; unfold Engine.callbackApi; exact .throwA _
  | succ n ih =>
    constructor
    · intro kind run mem first
      have hctl : ∀ op, Pres I (do
          let (mem', e) ← Engine.ctlUpdateMem cfg mem op
          match e with
          | none => Pure.pure (.ok ⟨Gen.SkipTypeRunStateUpdate, run.obj⟩, mem')
          | some a => Pure.pure (.error a, mem') : M (Except Abort FnRes × Rec)) := fun op =>
        .bind (.ctlUpdateMem h _ _) fun r => by rcases r with ⟨_, _ | a⟩ <;> exact .pure _
      unfold Engine.runFn
      refine .bind .nextOutcome fun out => ?_
      -- the two renderings of the answer share what follows them
      dsimp only
      split <;> refine .bind (.emit _) fun _ => ?_
      all_goals
        cases out
        case pause => exact hctl _
        case cancel => exact hctl _
        case nested st =>
          refine .bind (.tryM (ih.2 _ _)) fun r => ?_
          cases r
          · exact .bind (.emit _) fun _ => ih.1 _ _ _ _
          · exact ih.1 _ _ _ _
        all_goals exact .pure _
    · intro fid status
      unfold Engine.callbackApi
      exact .forM _ fun _ => .callbackOne h _ _ _ fun r => ih.1 _ _ _ _

theorem Pres.runFn (h : StableH I cfg) (kind : String) (run mem : Rec) (fuel : Nat) (first : Bool) :
    Pres I (runFn cfg kind run mem fuel first) := (Pres.runFn_callbackApi h fuel).1 _ _ _ _

theorem Pres.callbackApi (h : StableH I cfg) (fid : Fid) (status : Status) (fuel : Nat) :
    Pres I (callbackApi cfg fid status fuel) := (Pres.runFn_callbackApi h fuel).2 _ _

theorem Pres.maybePauseMem (h : StableH I cfg) (n : Int) (p : Proc) (mem : Rec) (e : Abort) :
    Pres I (maybePauseMem cfg n p mem e) := by
  have hcount : ∀ k v, Pres I (Engine.modifySys (·.setCount k v)) := fun k v => .modifySys fun s hi => h.setCount s k v hi
  unfold Engine.maybePauseMem
  refine .ite (.pure _) (.bind .getSys fun _ => .bind (hcount _ _) fun _ => .ite (.pure _) (.bind (.ctlUpdateMem h _ _) fun r => ?_))
  rcases r with ⟨_, _ | a⟩
  · exact .bind (hcount _ _) fun _ => .pure _
  · exact .throwA _

theorem Pres.maybePause (h : StableH I cfg) (n : Int) (p : Proc) (mem : Rec) (e : Abort) :
    Pres I (maybePause cfg n p mem e) := by
  unfold Engine.maybePause
  exact .bind (.maybePauseMem h _ _ _ _) fun _ => .pure _

theorem Pres.stepRun (h : StableH I cfg) (p : Proc) (pa : Int) (record : Rec)
    (fn : Rec → M (Except Abort FnRes × Rec)) (hfn : ∀ r, Pres I (fn r)) : Pres I (stepRun cfg p pa record fn) := by
  unfold Engine.stepRun
  refine .bind (hfn _) fun r => ?_
  rcases r with ⟨err | res, _⟩
  · exact .bind (.maybePause h _ _ _ _) fun _ => .ite (.pure _) (.throwA _)
  · exact .ite (.pure _) (.updater h _ _ _ _)

theorem Pres.stepGate (h : StableH I cfg) (p : Proc) (pa : Int) (e : Event) (record : Rec)
    (fn : Rec → M (Except Abort FnRes × Rec)) (hfn : ∀ r, Pres I (fn r)) : Pres I (stepGate cfg p pa e record fn) := by
  unfold Engine.stepGate
  exact .ite (.pure _) (.ite (.throwA _) (.ite (.pure _) (.stepRun h _ _ _ _ hfn)))

theorem Pres.stepHandle (h : StableH I cfg) (p : Proc) (status : Status) (pa : Int) (e : Event)
    (fn : Rec → M (Except Abort FnRes × Rec)) (hfn : ∀ r, Pres I (fn r)) : Pres I (stepHandle cfg p status pa e fn) := by
  unfold Engine.stepHandle
  exact .bindOption (.lookup _) (.pure _) fun record => .stepGate h _ _ _ _ _ hfn

theorem Pres.inserterOne (h : StableH I cfg) (status : Status) (run : Rec) : Pres I (inserterOne status run) := by
  unfold Engine.inserterOne
  refine .bind .nextOutcome fun out => .bind (.emit _) fun _ => .bind .getSys fun _ => ?_
  unfold Engine.inserterOutcome
  split
  · exact .call fun s hi => h.timerCreate s _ _ _ _ hi
  · exact .pure _
  all_goals exact .throwA _

theorem Pres.inserterFn (h : StableH I cfg) (status : Status) (run : Rec) : Pres I (inserterFn cfg status run) := by
  unfold Engine.inserterFn
  refine .bind (.tryM (.forM _ fun _ => .inserterOne h _ _)) fun r => ?_
  cases r <;> exact .pure _

theorem Pres.hookHandle (rs : RunState) (e : Event) : Pres I (hookHandle cfg rs e) := by
  unfold Engine.hookHandle
  refine .bindOption (.lookup _) (.throwA _) fun record => .ite (.pure _) (.bind .nextOutcome fun out => .bind (.emit _) fun _ => ?_)
  -- the hook's answer: an error, an error while the role is lost, no answer left, or success
  split
  · exact .throwA _
  · exact .bind .loseLease fun _ => .throwA _
  · exact .throwA _
  · exact .pure _

theorem Pres.deleteObj (record : Rec) : Pres I (deleteObj cfg record) := by
  unfold Engine.deleteObj Engine.customDeleteFn
  refine .ite (.ite (.throwA _) (.bind .nextOutcome fun out => .bind (.emit _) fun _ => ?_)) (.pure _)
  split
  · exact .throwA _
  · exact .bind .loseLease fun _ => .throwA _
  · exact .throwA _
  · exact .pure _

theorem Pres.deleteHandle (h : StableH I cfg) (e : Event) : Pres I (deleteHandle cfg e) := by
  unfold Engine.deleteHandle
  exact .bindOption (.lookup _) (.throwA _) fun record => .bind (.deleteObj _) fun _ => .updateRecord h _

theorem Pres.retryHandle (h : StableH I cfg) (e : Event) : Pres I (retryHandle cfg e) := by
  unfold Engine.retryHandle
  exact .bindOption (.lookup _) (.throwA _) fun record =>
    .ite (.pure _) (.bind .getSys fun _ => .ite (.pure _) (.bind (.ctlUpdate h _ _) fun _ => .pure _))

theorem Pres.handle (h : StableH I cfg) (p : Proc) (e : Event) : Pres I (handle cfg p e) := by
  unfold Engine.handle
  split
  · exact .stepHandle h _ _ _ _ _ fun r => .runFn h _ _ _ _ _
  · exact .stepHandle h _ _ _ _ _ fun r => .inserterFn h _ _
  · exact .hookHandle _ _
  · exact .deleteHandle h _
  · exact .retryHandle h _
  · exact .pure _

theorem Pres.deliver (p : Proc) (hc : ∀ s n, I s → I (Sys.setCursor s p n)) (h : StableH I cfg) (i : Nat) (e : Event) :
    Pres I (deliver cfg p i e) := by
  unfold Engine.deliver
  exact .ite (.ack_of p hc _) (.bind (.handle h _ _) fun _ => .ack_of p hc _)

theorem Pres.processTimeout (h : StableH I cfg) (p : Proc) (status : Status) (shared : Rec) (t : Timer) :
    Pres I (processTimeout cfg p status shared t) := by
  unfold Engine.processTimeout
  refine .bind (.runFn h _ _ _ _ _) fun r => ?_
  rcases r with ⟨err | res, _⟩
  · exact .bind (.maybePauseMem h _ _ _ _) fun _ => .pure _
  · exact .ite (.pure _) (.bind (.updater h _ _ _ _) fun _ =>
      .bind (.call fun s hi => h.timerComplete s _ hi) fun _ => .pure _)

theorem Pres.pollGate (h : StableH I cfg) (p : Proc) (status : Status) (t : Timer) (r : Rec) : Pres I (pollGate cfg p status t r) := by
  unfold Engine.pollGate
  exact .ite (.call fun s hi => h.timerCancel s _ hi)
    (.ite (.pure _) (.bind (.foldlM _ _ fun _ _ => .processTimeout h _ _ _ _) fun _ => .pure _))

theorem Pres.pollTimer (h : StableH I cfg) (p : Proc) (status : Status) (t : Timer) : Pres I (pollTimer cfg p status t) := by
  unfold Engine.pollTimer
  exact .bindOption (.lookup _) (.throwA _) fun r => .pollGate h _ _ _ _

theorem Pres.pollOp (h : StableH I cfg) (p : Proc) (status : Status) (q : Int) : Pres I (pollOp cfg p status q) := by
  unfold Engine.pollOp
  exact .bind (.call_ro fun _ => rfl) fun _ => .forM _ fun _ => .pollTimer h _ _ _

/-- each piece of work an operation of `p` can consist of; the relay cycle is a hypothesis -/
theorem Work.pres {p : Proc} {ps : PState} {s : Sys} {w : M PState} (hw : Work cfg p ps s w) (h : StableH I cfg)
    (hrel : Pres I (relayOp cfg)) (hc : ∀ s n, I s → I (Sys.setCursor s p n)) : Pres I w := by
  cases hw with
  | fail => exact .throwA _
  | park => exact .pure _
  | relay => exact .bind hrel fun _ => .pure _
  | poll => exact .bind (.pollOp h _ _ _) fun _ => .bind .getSys fun _ => .pure _
  | deliver => exact .bind (.deliver p hc h _ _) fun _ => .pure _

theorem Pres.procBody_of (p : Proc) (h : StableH I cfg) (hrel : Pres I (relayOp cfg)) (hc : ∀ s n, I s → I (Sys.setCursor s p n))
    (ps : PState) : Pres I (procBody cfg p ps) := by
  intro env st hi
  obtain ⟨w, st1, hw, hs, _, he⟩ := procBody_work cfg p ps env st
  rw [he]
  exact hw.pres h hrel hc env st1 (hs ▸ hi)

theorem Pres.procOp_of (p : Proc) (h : StableH I cfg) (hrel : Pres I (relayOp cfg)) (hc : ∀ s n, I s → I (Sys.setCursor s p n))
    (hps : ∀ s x, I s → I (Sys.setPState s p x)) : Pres I (procOp cfg p) := by
  intro env st hi
  rw [procOp_sys]
  exact hps _ _ (Pres.procBody_of p h hrel hc _ env st hi)

theorem Pres.leaseLossOp (p : Proc) (hps : ∀ s, I s → I (Sys.setPState s p .needRole)) : Pres I (leaseLossOp cfg p) := by
  have hpark : Pres I (Engine.modifySys (·.setPState p .needRole)) := .modifySys hps
  unfold Engine.leaseLossOp
  refine .bind .getSys fun s => ?_
  split
  · exact .pure _
  · exact hpark
  · exact .bind (.emit _) fun _ => .bind (.emit _) fun _ => hpark
  · exact .bind (.emit _) fun _ => hpark
  · split
    · exact .bind (.emit _) fun _ => hpark
    · exact .pure _

theorem Pres.triggerApi (h : StableH I cfg) (fid : Fid) (start : Status) (n : Obj) : Pres I (triggerApi cfg fid start n) := by
  unfold Engine.triggerApi
  split
  · exact .throwA _
  · exact .bind (.latest _) fun _ => .ite (.throwA _) (.bind .getSys fun _ => .bind (.updateRecord h _) fun _ => .pure _)

theorem Pres.ctlFreshApi (h : StableH I cfg) (rid : RunId) (op : RS.CtlOp) : Pres I (ctlFreshApi cfg rid op) := by
  unfold Engine.ctlFreshApi
  exact .bind .getSys fun _ => .ite (.throwA _) (.bindOption (.lookup _) (.throwA _) fun r => .bind (.ctlUpdate h _ _) fun _ => .pure _)

theorem Pres.handleApi (h : StableH I cfg) (rid : RunId) : Pres I (handleApi rid) := by
  unfold Engine.handleApi
  exact .bind .getSys fun _ => .ite (.throwA _) (.bindOption (.lookup _) (.throwA _) fun r => .bind (.modifySys fun s hi => h.setHandles s _ hi) fun _ => .pure _)

theorem Pres.hctlApi (h : StableH I cfg) (hd : Nat) (op : RS.CtlOp) : Pres I (hctlApi cfg hd op) := by
  unfold Engine.hctlApi
  refine .bind .getSys fun _ => ?_
  split
  · exact .throwA _
  · exact .ite (.bind (.modifySys fun s hi => h.setHandles s _ hi) fun _ => .bind (.store h _) fun _ => .pure _) (.throwA _)

/-- the handler primitives never move a cursor, never change where a process is parked and publish nothing -/
theorem frame_stableH (cfg : Cfg) (c : List (Proc × Nat)) (ps : List (Proc × PState)) (l : List Event) :
    StableH (fun s => s.cursors = c ∧ s.pst = ps ∧ s.log = l) cfg where
  write := fun _ _ h => by simpa [Sys.write] using h
  timerCreate := fun _ _ _ _ _ h => h
  timerComplete := fun _ _ h => h
  timerCancel := fun _ _ h => h
  setCount := fun _ _ _ h => h
  setHandles := fun _ _ h => h

theorem handle_frame (cfg : Cfg) (p : Proc) (e : Event) (env : Env) (st : OpSt) :
    (handle cfg p e env st).2.sys.cursors = st.sys.cursors ∧ (handle cfg p e env st).2.sys.pst = st.sys.pst ∧
    (handle cfg p e env st).2.sys.log = st.sys.log :=
  Pres.handle (frame_stableH cfg _ _ _) p e env st ⟨rfl, rfl, rfl⟩

end WorkflowModel.Engine
