import WorkflowModel.Lemmas.Shapes
/-! # Preservation logic for the operation monad

`Pres I m`: whatever the environment (fault plan, outcomes, stale reads), running `m` from a state whose `Sys`
satisfies `I` ends — normally or by abort, wherever the fault plan cut it — in a state whose `Sys` satisfies `I`.
This is how "for every fault position" is discharged: an invariant that every *primitive* preserves on its own is
preserved by every prefix of every operation. -/
namespace WorkflowModel.Engine

def Pres (I : Sys → Prop) {α : Type} (m : M α) : Prop := ∀ env st, I st.sys → I (m env st).2.sys

variable {I : Sys → Prop} {α β : Type}

theorem Pres.pure (a : α) : Pres I (pure a : M α) := fun _ _ h => h

theorem Pres.bind {m : M α} {f : α → M β} (h1 : Pres I m) (h2 : ∀ a, Pres I (f a)) : Pres I (m >>= f) := by
  intro env st h
  have := h1 env st h
  simp only [Bind.bind]
  rcases hm : m env st with ⟨r, st'⟩
  rw [hm] at this
  cases r with
  | ok a => exact h2 a env st' this
  | error e => exact this

theorem Pres.bindOption {γ : Type} {m : M (Option γ)} {f : Option γ → M β} (hm : Pres I m) (hn : Pres I (f none))
    (hs : ∀ x, Pres I (f (some x))) : Pres I (m >>= f) :=
  Pres.bind hm (Option.rec hn hs)

theorem Pres.getSys : Pres I Engine.getSys := fun _ _ h => h
theorem Pres.isCancelled : Pres I Engine.isCancelled := fun _ _ h => h
theorem Pres.emit (l : String) : Pres I (Engine.emit l) := fun _ _ h => h
theorem Pres.throwA (a : Abort) : Pres I (Engine.throwA a : M α) := fun _ _ h => h
theorem Pres.nextOutcome : Pres I Engine.nextOutcome := fun _ _ h => h
theorem Pres.loseLease : Pres I Engine.loseLease := fun _ _ h => h

theorem Pres.modifySys {f : Sys → Sys} (h : ∀ s, I s → I (f s)) : Pres I (Engine.modifySys f) :=
  fun _ st hi => h st.sys hi

theorem Pres.tryM {m : M α} (h : Pres I m) : Pres I (Engine.tryM m) :=
  fun env st hi => tryM_snd m env st ▸ h env st hi

/-- an adapter call preserves `I` if its effect does; the fault plan then cannot matter -/
theorem Pres.call {label : String} {eff : Sys → (String × Except Abort α × Sys)}
    (h : ∀ s, I s → I (eff s).2.2) : Pres I (Engine.call label eff) := by
  intro env st hi
  rcases call_sys label eff env st with ⟨hs, _⟩ | hs <;> rw [hs]
  · exact hi
  · exact h _ hi

theorem Pres.call_ro {label : String} {eff : Sys → (String × Except Abort α × Sys)}
    (h : ∀ s, (eff s).2.2 = s) : Pres I (Engine.call label eff) :=
  Pres.call (fun s hi => by rw [h s]; exact hi)

theorem Pres.forM {γ : Type} {f : γ → M PUnit} (l : List γ) (h : ∀ x, Pres I (f x)) : Pres I (l.forM f) := by
  induction l with
  | nil => exact Pres.pure _
  | cons x xs ih => exact Pres.bind (h x) fun _ => ih

theorem Pres.foldlM {γ δ : Type} {f : δ → γ → M δ} (l : List γ) (init : δ) (h : ∀ d x, Pres I (f d x)) :
    Pres I (l.foldlM f init) := by
  induction l generalizing init with
  | nil => exact Pres.pure _
  | cons x xs ih => exact Pres.bind (h init x) fun d => ih d

theorem Pres.ite {c : Prop} [Decidable c] {a b : M α} (ha : Pres I a) (hb : Pres I b) : Pres I (if c then a else b) := by
  split <;> assumption

end WorkflowModel.Engine
